-- every module, in reading order; DESIGN.md §13.1 says what each is for
import Mainchain.Prim.AList
import Mainchain.Prim.Num
import Mainchain.Model.Types
import Mainchain.Model.Bank
import Mainchain.Model.Registry
import Mainchain.Model.Stream
import Mainchain.Model.Enterprise
import Mainchain.Gen.Facts
import Mainchain.Model.Tx
import Mainchain.Model.Chain
import Mainchain.Model.Keys
import Mainchain.Model.Convert
import Mainchain.Model.Paginate
import Mainchain.Model.Query
import Mainchain.Model.Genesis
import Mainchain.Model.Script
import Mainchain.Model.Pure
import Mainchain.Lemmas.Witness
import Mainchain.Lemmas.Num
import Mainchain.Lemmas.Monad
import Mainchain.Lemmas.AList
import Mainchain.Lemmas.Sort
import Mainchain.Lemmas.Keys
import Mainchain.Lemmas.Convert
import Mainchain.Lemmas.Coins
import Mainchain.Lemmas.Paginate
import Mainchain.Lemmas.PaginateWalk
import Mainchain.Lemmas.Bank
import Mainchain.Lemmas.BankFrame
import Mainchain.Lemmas.EntOps
import Mainchain.Lemmas.RegKeys
import Mainchain.Lemmas.RegistryInv
import Mainchain.Lemmas.RegImport
import Mainchain.Lemmas.StreamOps
import Mainchain.Lemmas.StreamInv
import Mainchain.Lemmas.StreamFrame
import Mainchain.Lemmas.Signer
import Mainchain.Lemmas.Exec
import Mainchain.Lemmas.Steps
import Mainchain.Lemmas.Chain
import Mainchain.Lemmas.Fine
import Mainchain.Lemmas.NodeReach
import Mainchain.Lemmas.Fees
import Mainchain.Lemmas.RegistryReach
import Mainchain.Lemmas.EntFrame
import Mainchain.Lemmas.StreamReach
import Mainchain.Lemmas.StreamRate
import Mainchain.Lemmas.StreamLive
import Mainchain.Lemmas.EntOrders
import Mainchain.Lemmas.EntLife
import Mainchain.Lemmas.EntBlock
import Mainchain.Lemmas.EntBooks
import Mainchain.Lemmas.BankTotal
import Mainchain.Lemmas.EntNoPanic
import Mainchain.Lemmas.ParamsInv
import Mainchain.Lemmas.GenesisInv
import Mainchain.Lemmas.EntCanon
import Mainchain.Props.C01
import Mainchain.Props.C02
import Mainchain.Props.C03
import Mainchain.Props.C04
import Mainchain.Props.C05
import Mainchain.Props.C06
import Mainchain.Props.C07
import Mainchain.Props.C08
import Mainchain.Props.C09
import Mainchain.Props.C10
import Mainchain.Props.C11
import Mainchain.Props.C12
import Mainchain.Props.C13
import Mainchain.Props.C14
import Mainchain.Props.C15
import Mainchain.Props.C16
import Mainchain.Props.C17
import Mainchain.Props.C18
import Mainchain.Props.C19
import Mainchain.Props.C20
