import Mainchain.Prim.AList
namespace Mainchain
namespace AL

variable {κ : Type} {ν : Type} [DecidableEq κ]

def NoDupKeys (m : List (κ × ν)) : Prop := (keys m).Nodup

theorem find_cons_self (k : κ) (v : ν) (m : List (κ × ν)) : find? ((k, v) :: m) k = some v := by
  simp only [find?, if_true]

theorem find_cons_ne (k x : κ) (v : ν) (m : List (κ × ν)) (h : k ≠ x) : find? ((k, v) :: m) x = find? m x := by
  simp only [find?, if_neg h]

@[simp] theorem find_nil (x : κ) : find? ([] : List (κ × ν)) x = none := rfl

omit [DecidableEq κ] in
theorem keys_append (a b : List (κ × ν)) : keys (a ++ b) = keys a ++ keys b := List.map_append

theorem find_eq_none_iff (m : List (κ × ν)) (x : κ) : find? m x = none ↔ x ∉ keys m := by
  induction m with
  | nil => exact ⟨fun _ => nofun, fun _ => rfl⟩
  | cons q m ih =>
    obtain ⟨k, v⟩ := q
    rw [keys, List.map_cons, List.mem_cons, not_or]
    by_cases hk : k = x
    · rw [hk, find_cons_self]; exact ⟨nofun, fun h => absurd rfl h.1⟩
    · rw [find_cons_ne k x v m hk, ih]; exact ⟨fun h => ⟨Ne.symm hk, h⟩, And.right⟩

theorem mem_keys_iff_find (m : List (κ × ν)) (x : κ) : x ∈ keys m ↔ find? m x ≠ none := by
  rw [Ne, find_eq_none_iff, Decidable.not_not]

theorem mem_keys_of_find (m : List (κ × ν)) (x : κ) (v : ν) (h : find? m x = some v) : x ∈ keys m :=
  (mem_keys_iff_find m x).mpr (h ▸ nofun)

theorem find_some_of_mem (m : List (κ × ν)) (x : κ) (h : x ∈ keys m) : ∃ v, find? m x = some v :=
  Option.ne_none_iff_exists'.mp ((mem_keys_iff_find m x).mp h)

theorem contains_false_iff {m : List (κ × ν)} {k : κ} : contains m k = false ↔ find? m k = none := by
  simp [contains]

theorem contains_of_some {m : List (κ × ν)} {k : κ} {v : ν} (h : find? m k = some v) : contains m k = true := by
  simp [contains, h]

theorem mem_of_find : ∀ (m : List (κ × ν)) (k : κ) (v : ν), find? m k = some v → (k, v) ∈ m
  | (k0, v0) :: m, k, v, h => by
    by_cases he : k0 = k
    · rw [he, find_cons_self] at h; cases h; rw [he]; exact List.mem_cons_self
    · rw [find_cons_ne k0 k v0 m he] at h; exact List.mem_cons_of_mem _ (mem_of_find m k v h)

theorem find_of_mem : ∀ (m : List (κ × ν)), NoDupKeys m → ∀ k v, (k, v) ∈ m → find? m k = some v
  | (k0, v0) :: m, hnd, k, v, h => by
    obtain ⟨hk0, hnd⟩ := List.nodup_cons.mp hnd
    rcases List.mem_cons.mp h with he | he
    · cases he; exact find_cons_self ..
    · rw [find_cons_ne k0 k v0 m (fun e => hk0 (e ▸ List.mem_map_of_mem (f := (·.1)) he))]
      exact find_of_mem m hnd k v he

theorem find_insert (m : List (κ × ν)) (x y : κ) (w : ν) :
    find? (insert m x w) y = if x = y then some w else find? m y := by
  induction m with
  | nil => rfl
  | cons p m ih =>
    obtain ⟨k, v⟩ := p
    by_cases hk : k = x
    · subst hk; by_cases hy : k = y <;> simp [insert, find?, hy]
    · by_cases hy : k = y
      · subst hy; simp [insert, find?, hk, Ne.symm hk]
      · simp [insert, find?, hk, hy, ih]

@[simp] theorem find_insert_eq (m : List (κ × ν)) (x : κ) (w : ν) :
    find? (insert m x w) x = some w := by
  rw [find_insert, if_pos rfl]

theorem find_insert_ne (m : List (κ × ν)) (x y : κ) (w : ν) (h : x ≠ y) :
    find? (insert m x w) y = find? m y := by
  rw [find_insert, if_neg h]

/-- the shape of an invariant field `∀ y v, find? m y = some v → P y v` after an insert -/
theorem forall_find_insert {P : κ → ν → Prop} (m : List (κ × ν)) (x : κ) (w : ν) (hnew : P x w)
    (hold : ∀ y v, x ≠ y → find? m y = some v → P y v) : ∀ y v, find? (insert m x w) y = some v → P y v := by
  intro y v h
  rw [find_insert] at h
  split at h
  · rename_i e; subst e; cases h; exact hnew
  · rename_i e; exact hold y v e h

theorem insert_of_not_mem (m : List (κ × ν)) (x : κ) (w : ν) (h : x ∉ keys m) : insert m x w = m ++ [(x, w)] := by
  induction m with
  | nil => rfl
  | cons p m ih =>
    obtain ⟨k, v⟩ := p
    simp only [keys, List.map_cons, List.mem_cons, not_or] at h
    simp only [insert, if_neg (Ne.symm h.1), ih h.2, List.cons_append]

theorem keys_insert_of_mem (m : List (κ × ν)) (x : κ) (w : ν) (h : x ∈ keys m) : keys (insert m x w) = keys m := by
  induction m with
  | nil => cases h
  | cons p m ih =>
    obtain ⟨k, v⟩ := p
    simp only [insert]
    split
    · rfl
    · rename_i hk
      simp only [keys, List.map_cons, List.mem_cons] at h ⊢
      rw [show List.map (·.1) (insert m x w) = List.map (·.1) m from ih (h.resolve_left (Ne.symm hk))]

theorem nodup_insert (m : List (κ × ν)) (x : κ) (w : ν) (h : NoDupKeys m) : NoDupKeys (insert m x w) := by
  unfold NoDupKeys at h ⊢
  by_cases hx : x ∈ keys m
  · rwa [keys_insert_of_mem m x w hx]
  · rw [insert_of_not_mem m x w hx, keys_append]
    exact List.nodup_append.mpr ⟨h, List.pairwise_singleton _ _, fun a ha b hb e => hx (by
      rw [List.mem_singleton.mp hb] at e; exact (show a = x from e) ▸ ha)⟩

theorem erase_sublist (m : List (κ × ν)) (x : κ) : (erase m x).Sublist m := by
  induction m with
  | nil => exact .slnil
  | cons p m ih =>
    obtain ⟨k, v⟩ := p
    simp only [erase]
    split
    · exact List.sublist_cons_self ..
    · exact ih.cons_cons _

theorem nodup_erase (m : List (κ × ν)) (x : κ) (h : NoDupKeys m) : NoDupKeys (erase m x) :=
  List.Nodup.sublist ((erase_sublist m x).map _) h

theorem find_erase_ne (m : List (κ × ν)) (x y : κ) (h : x ≠ y) :
    find? (erase m x) y = find? m y := by
  induction m with
  | nil => rfl
  | cons p m ih =>
    obtain ⟨k, v⟩ := p
    by_cases hk : k = x
    · subst hk; simp [erase, find?, h]
    · simp [erase, find?, hk, ih]

theorem find_erase_eq (m : List (κ × ν)) (x : κ) (h : NoDupKeys m) : find? (erase m x) x = none := by
  induction m with
  | nil => rfl
  | cons p m ih =>
    obtain ⟨k, v⟩ := p
    have hn := List.nodup_cons.mp h
    by_cases hk : k = x
    · subst hk; simp only [erase, if_true]; exact (find_eq_none_iff m k).mpr hn.1
    · simp only [erase, hk, if_false, find?]; exact ih hn.2

theorem find_erase (m : List (κ × ν)) (x y : κ) (h : NoDupKeys m) :
    find? (erase m x) y = if x = y then none else find? m y := by
  by_cases e : x = y
  · subst e; rw [if_pos rfl]; exact find_erase_eq m x h
  · rw [if_neg e]; exact find_erase_ne m x y e

theorem mem_keys_erase_iff (m : List (κ × ν)) (x y : κ) (hn : NoDupKeys m) : y ∈ keys (erase m x) ↔ y ≠ x ∧ y ∈ keys m := by
  rw [mem_keys_iff_find, mem_keys_iff_find, find_erase m x y hn]
  by_cases h : x = y <;> simp [h, eq_comm]

theorem find_map_vals {μ : Type} (f : κ → ν → μ) (m : List (κ × ν)) (x : κ) :
    find? (m.map (fun e => (e.1, f e.1 e.2))) x = (find? m x).map (f x) := by
  induction m with
  | nil => rfl
  | cons e m ih =>
    obtain ⟨k, v⟩ := e
    simp only [List.map_cons, find?]
    split
    · rename_i h; subst h; rfl
    · exact ih

theorem foldl_copy_aux {μ : Type} (m : List (κ × ν)) (hn : NoDupKeys m) (f : κ → ν → μ) :
    ∀ (rest pre : List (κ × ν)), m = pre ++ rest →
      (keys rest).foldl (fun acc id => match find? m id with | some v => insert acc id (f id v) | none => acc)
        (pre.map (fun e => (e.1, f e.1 e.2))) = m.map (fun e => (e.1, f e.1 e.2))
  | [], pre, hm => by rw [hm, List.append_nil]; rfl
  | (k, v) :: rest, pre, hm => by
    have hf : find? m k = some v := find_of_mem m hn k v (by rw [hm]; exact List.mem_append_right _ List.mem_cons_self)
    have hk : k ∉ keys (pre.map (fun e => (e.1, f e.1 e.2))) := by
      unfold keys; rw [List.map_map]
      intro hc
      have hn' : (keys pre ++ keys ((k, v) :: rest)).Nodup := by rw [← keys_append, ← hm]; exact hn
      exact (List.nodup_append.mp hn').2.2 k hc k (List.mem_cons_self ..) rfl
    have := foldl_copy_aux m hn f rest (pre ++ [(k, v)]) (by rw [hm, List.append_assoc]; rfl)
    rw [List.map_append] at this
    simp only [keys, List.map_cons, List.foldl_cons, hf]
    rw [insert_of_not_mem _ _ _ hk]
    exact this

theorem foldl_copy {μ : Type} (m : List (κ × ν)) (hn : NoDupKeys m) (f : κ → ν → μ) :
    (keys m).foldl (fun acc id => match find? m id with | some v => insert acc id (f id v) | none => acc) [] =
      m.map (fun e => (e.1, f e.1 e.2)) :=
  foldl_copy_aux m hn f m [] rfl

def sumF (f : ν → Int) : List (κ × ν) → Int
  | [] => 0
  | (_, v) :: m => f v + sumF f m

def fOpt (f : ν → Int) : Option ν → Int
  | some v => f v
  | none => 0

omit [DecidableEq κ] in
theorem foldr_map_eq_sumF (f : ν → Int) (m : List (κ × ν)) : (m.map (fun x => f x.2)).foldr (· + ·) 0 = sumF f m := by
  induction m with
  | nil => rfl
  | cons x l ih => exact congrArg (f x.2 + ·) ih

theorem sumF_insert (f : ν → Int) (m : List (κ × ν)) (x : κ) (w : ν) :
    sumF f (insert m x w) = sumF f m - fOpt f (find? m x) + f w := by
  induction m with
  | nil => simp only [insert, find?, sumF, fOpt, Int.sub_zero, Int.add_comm]
  | cons p m ih =>
    obtain ⟨k, v⟩ := p
    by_cases h : k = x
    · simp only [insert, find?, sumF, fOpt, h, if_true]
      rw [Int.add_comm (f v), Int.add_sub_cancel, Int.add_comm]
    · simp only [insert, h, if_false, sumF, find?, ih, Int.add_sub_assoc, Int.add_assoc]

theorem sumF_erase (f : ν → Int) (m : List (κ × ν)) (x : κ) : sumF f (erase m x) = sumF f m - fOpt f (find? m x) := by
  induction m with
  | nil => rfl
  | cons p m ih =>
    obtain ⟨k, v⟩ := p
    by_cases hk : k = x
    · simp only [erase, find?, sumF, fOpt, hk, if_true]
      rw [Int.add_comm, Int.add_sub_cancel]
    · simp only [erase, hk, if_false, sumF, find?, ih, Int.add_sub_assoc]

omit [DecidableEq κ] in
theorem sumF_nonneg (f : ν → Int) : ∀ (m : List (κ × ν)), (∀ e ∈ m, 0 ≤ f e.2) → 0 ≤ sumF f m
  | [], _ => Int.le_refl 0
  | _ :: m, h =>
    Int.add_nonneg (h _ List.mem_cons_self) (sumF_nonneg f m (fun e he => h e (List.mem_cons_of_mem _ he)))

omit [DecidableEq κ] in
theorem sumF_ge_of_mem (f : ν → Int) : ∀ (m : List (κ × ν)), (∀ e ∈ m, 0 ≤ f e.2) → ∀ e ∈ m, f e.2 ≤ sumF f m
  | (k, v) :: m, h, e, he => by
    have hm := fun e he => h e (List.mem_cons_of_mem (k, v) he)
    rcases List.mem_cons.mp he with rfl | he'
    · exact Int.le_add_of_nonneg_right (sumF_nonneg f m hm)
    · exact Int.le_trans (sumF_ge_of_mem f m hm e he') (Int.le_add_of_nonneg_left (h _ List.mem_cons_self))

theorem fOpt_le_sumF (f : ν → Int) (m : List (κ × ν)) (h : ∀ k v, find? m k = some v → 0 ≤ f v) (hn : NoDupKeys m) (x : κ) :
    fOpt f (find? m x) ≤ sumF f m := by
  have hm : ∀ e ∈ m, 0 ≤ f e.2 := fun e he => h e.1 e.2 (find_of_mem m hn _ _ he)
  cases hx : find? m x with
  | none => exact sumF_nonneg f m hm
  | some v => exact sumF_ge_of_mem f m hm _ (mem_of_find m x v hx)

omit [DecidableEq κ] in
theorem sum_filter_cons (P : κ → Bool) (k : κ) (v : Nat) (m : List (κ × Nat)) :
    sumVals (((k, v) :: m).filter (fun e => P e.1)) = sumVals (m.filter (fun e => P e.1)) + (if P k then v else 0) := by
  simp only [List.filter_cons]
  split
  · exact Nat.add_comm ..
  · rfl

/-- `P` selects a section of the keys: for the bank, the balances in one denomination -/
theorem sum_filter_insert (P : κ → Bool) (m : List (κ × Nat)) (x : κ) (w : Nat) :
    sumVals ((insert m x w).filter (fun e => P e.1)) + (if P x then get m x else 0) =
      sumVals (m.filter (fun e => P e.1)) + (if P x then w else 0) := by
  induction m with
  | nil => rw [insert, sum_filter_cons]; exact congrArg _ (ite_self 0)
  | cons e m ih =>
    obtain ⟨k, v⟩ := e
    rw [sum_filter_cons]
    unfold get at ih ⊢
    by_cases hk : k = x
    · subst hk
      rw [insert, if_pos rfl, find_cons_self, sum_filter_cons]
      exact Nat.add_right_comm ..
    · rw [insert, if_neg hk, find_cons_ne k x v m hk, sum_filter_cons, Nat.add_right_comm, ih, Nat.add_right_comm]

theorem sum_filter_erase (P : κ → Bool) (m : List (κ × Nat)) (x : κ) :
    sumVals ((erase m x).filter (fun e => P e.1)) + (if P x then get m x else 0) = sumVals (m.filter (fun e => P e.1)) := by
  induction m with
  | nil => exact congrArg _ (ite_self 0)
  | cons e m ih =>
    obtain ⟨k, v⟩ := e
    rw [sum_filter_cons]
    unfold get at ih ⊢
    by_cases hk : k = x
    · subst hk
      rw [erase, if_pos rfl, find_cons_self]
      rfl
    · rw [erase, if_neg hk, find_cons_ne k x v m hk, sum_filter_cons, Nat.add_right_comm, ih]

theorem sum_filter_setNat (P : κ → Bool) (m : List (κ × Nat)) (x : κ) (n : Nat) :
    sumVals ((setNat m x n).filter (fun e => P e.1)) + (if P x then get m x else 0) =
      sumVals (m.filter (fun e => P e.1)) + (if P x then n else 0) := by
  unfold setNat
  split
  · rename_i h0; subst h0; rw [ite_self, Nat.add_zero]; exact sum_filter_erase P m x
  · exact sum_filter_insert P m x n

theorem sum_setNat (m : List (κ × Nat)) (x : κ) (n : Nat) (h : NoDupKeys m) :
    sumVals (setNat m x n) + get m x = sumVals m + n := by
  have h := sum_filter_setNat (fun _ => true) m x n
  rwa [List.filter_eq_self.mpr fun _ _ => rfl, List.filter_eq_self.mpr fun _ _ => rfl, if_pos rfl, if_pos rfl] at h

theorem nodup_setNat (m : List (κ × Nat)) (x : κ) (n : Nat) (h : NoDupKeys m) : NoDupKeys (setNat m x n) := by
  unfold setNat; split
  · exact nodup_erase m x h
  · exact nodup_insert m x n h

theorem get_setNat_eq (m : List (κ × Nat)) (x : κ) (n : Nat) (h : NoDupKeys m) : get (setNat m x n) x = n := by
  unfold setNat get; split
  · rename_i h0; rw [find_erase_eq m x h, h0]; rfl
  · rw [find_insert_eq]; rfl

theorem get_setNat_ne (m : List (κ × Nat)) (x y : κ) (n : Nat) (h : x ≠ y) : get (setNat m x n) y = get m y := by
  unfold setNat get; split
  · rw [find_erase_ne m x y h]
  · rw [find_insert_ne m x y n h]

end AL
open AL

section filt
variable {κ : Type} [DecidableEq κ]

theorem keys_filter_sub (P : κ → Bool) (m : List (κ × Nat)) : ∀ x ∈ keys (m.filter (fun e => P e.1)), x ∈ keys m := by
  intro x hx
  simp only [keys, List.mem_map] at hx ⊢
  obtain ⟨e, he, rfl⟩ := hx
  exact ⟨e, (List.mem_filter.mp he).1, rfl⟩

end filt

variable {ν : Type}

def RecsSorted (m : List ((Nat × Nat) × ν)) : Prop := m.Pairwise (fun a b => pairLt a.1 b.1 = true)

theorem pairLt_iff (a b : Nat × Nat) : pairLt a b = true ↔ a.1 < b.1 ∨ a.1 = b.1 ∧ a.2 < b.2 := by
  simp only [pairLt, Bool.or_eq_true, Bool.and_eq_true, decide_eq_true_eq]

theorem pairLt_irrefl (a : Nat × Nat) : pairLt a a = false :=
  Bool.eq_false_iff.mpr fun h => by rw [pairLt_iff] at h; omega

theorem pairLt_trans (a b c : Nat × Nat) (h1 : pairLt a b = true) (h2 : pairLt b c = true) : pairLt a c = true := by
  rw [pairLt_iff] at *; omega

theorem pairLt_total (a b : Nat × Nat) (h1 : a ≠ b) (h2 : pairLt a b = false) : pairLt b a = true := by
  have hne : ¬ (a.1 = b.1 ∧ a.2 = b.2) := fun h => h1 (Prod.ext h.1 h.2)
  rw [← Bool.not_eq_true, pairLt_iff] at h2
  rw [pairLt_iff]; omega

theorem nodup_of_sorted (m : List ((Nat × Nat) × ν)) (h : RecsSorted m) : NoDupKeys m :=
  List.pairwise_map.mpr (h.imp fun hab e => by rw [e, pairLt_irrefl] at hab; cases hab)

theorem find_insertRec (m : List ((Nat × Nat) × ν)) (x y : Nat × Nat) (w : ν) :
    find? (insertRec m x w) y = if x = y then some w else find? m y := by
  induction m with
  | nil => rfl
  | cons p m ih =>
    obtain ⟨k, v⟩ := p
    simp only [insertRec]
    split
    · rename_i hk; subst hk; by_cases hy : k = y <;> simp [find?, hy]
    · rename_i hk
      split
      · by_cases hy : x = y <;> simp [find?, hy]
      · by_cases hy : k = y
        · subst hy; simp [find?, Ne.symm hk]
        · simp [find?, hy, ih]

@[simp] theorem find_insertRec_eq (m : List ((Nat × Nat) × ν)) (x : Nat × Nat) (w : ν) :
    find? (insertRec m x w) x = some w := by
  rw [find_insertRec, if_pos rfl]

theorem find_insertRec_ne (m : List ((Nat × Nat) × ν)) (x y : Nat × Nat) (w : ν) (h : x ≠ y) :
    find? (insertRec m x w) y = find? m y := by
  rw [find_insertRec, if_neg h]

theorem mem_keys_insertRec (m : List ((Nat × Nat) × ν)) (x y : Nat × Nat) (w : ν) :
    y ∈ keys (insertRec m x w) ↔ y = x ∨ y ∈ keys m := by
  rw [mem_keys_iff_find, mem_keys_iff_find, find_insertRec]
  by_cases h : x = y <;> simp [h, eq_comm]

theorem sorted_insertRec (m : List ((Nat × Nat) × ν)) (x : Nat × Nat) (w : ν) (h : RecsSorted m) : RecsSorted (insertRec m x w) := by
  induction m with
  | nil => exact List.pairwise_singleton _ _
  | cons p m ih =>
    obtain ⟨k, v⟩ := p
    unfold RecsSorted at h ⊢
    rw [List.pairwise_cons] at h
    simp only [insertRec]
    split
    · exact List.pairwise_cons.mpr h
    · rename_i hk
      split
      · rename_i hlt
        refine List.pairwise_cons.mpr ⟨fun e he => ?_, List.pairwise_cons.mpr h⟩
        rcases List.mem_cons.mp he with rfl | he
        · exact hlt
        · exact pairLt_trans _ _ _ hlt (h.1 e he)
      · rename_i hlt
        refine List.pairwise_cons.mpr ⟨fun e he => ?_, ih h.2⟩
        rcases (mem_keys_insertRec m x e.1 w).mp (List.mem_map_of_mem he) with hx | hm
        · rw [hx]; exact pairLt_total x k (Ne.symm hk) (Bool.not_eq_true _ ▸ hlt)
        · obtain ⟨e', he', hk'⟩ := List.mem_map.mp hm
          rw [← hk']; exact h.1 e' he'

theorem sorted_erase (m : List ((Nat × Nat) × ν)) (x : Nat × Nat) (h : RecsSorted m) : RecsSorted (erase m x) :=
  List.Pairwise.sublist (erase_sublist m x) h

theorem sorted_ext (a b : List ((Nat × Nat) × ν)) (ha : RecsSorted a) (hb : RecsSorted b)
    (h : ∀ k, find? a k = find? b k) : a = b := by
  have mem : ∀ {m : List ((Nat × Nat) × ν)}, RecsSorted m → ∀ e, e ∈ m ↔ find? m e.1 = some e.2 := fun hm e =>
    ⟨find_of_mem _ (nodup_of_sorted _ hm) e.1 e.2, mem_of_find _ e.1 e.2⟩
  have nd : ∀ {m : List ((Nat × Nat) × ν)}, RecsSorted m → m.Nodup := fun hm =>
    (nodup_of_sorted _ hm).of_map _ fun _ _ h e => h (congrArg _ e)
  refine ((List.perm_ext_iff_of_nodup (nd ha) (nd hb)).mpr fun e => ?_).eq_of_pairwise (fun x y _ _ hxy hyx => ?_) ha hb
  · rw [mem ha, mem hb, h]
  · have := pairLt_trans _ _ _ hxy hyx
    rw [pairLt_irrefl] at this; cases this

/-- One observation `obs` of the state followed through a fold: only the step for `t` changes it, into `new` of what it was;
`hidem` (twice is once) covers a `t` that comes several times in `l`. -/
theorem foldl_obs {σ α β : Type} [DecidableEq α] (f : σ → α → σ) (obs : σ → β) (t : α) (new : β → β)
    (hidem : ∀ b, new (new b) = new b) (hp : ∀ s, obs (f s t) = new (obs s))
    (hn : ∀ s a, a ≠ t → obs (f s a) = obs s) :
    ∀ (l : List α) (s : σ), obs (l.foldl f s) = if t ∈ l then new (obs s) else obs s
  | [], _ => rfl
  | a :: l, s => by
    rw [List.foldl_cons, foldl_obs f obs t new hidem hp hn l]
    by_cases ha : a = t
    · rw [ha, hp s, hidem, ite_self, if_pos (List.mem_cons_self ..)]
    · simp only [hn s a ha, List.mem_cons, Ne.symm ha, false_or]

end Mainchain
