import Mainchain.Lemmas.AList
import Mainchain.Lemmas.Monad
import Mainchain.Lemmas.Coins
import Mainchain.Model.Bank
import Mainchain.Lemmas.Num
/-
The balance side of every bank operation is a sequence of single-balance updates (`Bumped`; supply and the vesting table are
followed by `fold_supply_spec` and the `_frame` lemmas): what such an update does to a balance and to a
total is proved once (`Bumped.effect`) and carried through coin lists once (`fold_moved`); a transfer is a list moved out
of one account and into another (`Moved.transfer`).
-/
namespace Mainchain
open AL

structure BankInv (b : Bank) : Prop where
  nodupBal : NoDupKeys b.bal
  nodupSupply : NoDupKeys b.supply

theorem BankInv.of_eq {b b' : Bank} (hb : BankInv b) (h1 : b'.bal = b.bal) (h2 : b'.supply = b.supply) : BankInv b' :=
  ⟨h1 ▸ hb.nodupBal, h2 ▸ hb.nodupSupply⟩

namespace Bank

theorem balOf_congr {b b' : Bank} (h : b'.bal = b.bal) (a : Addr) (d : String) : b'.balOf a d = b.balOf a d := by
  unfold balOf; rw [h]

theorem totalOf_congr {b b' : Bank} (h : b'.bal = b.bal) (d : String) : b'.totalOf d = b.totalOf d := by
  unfold totalOf; rw [h]

theorem balOf_setBal (b : Bank) (hb : NoDupKeys b.bal) (a : Addr) (d : String) (n : Nat) (a' : Addr) (d' : String) :
    (b.setBal a d n).balOf a' d' = if (a, d) = (a', d') then n else b.balOf a' d' := by
  unfold setBal balOf
  split
  · rename_i he; rw [← he]; exact get_setNat_eq _ _ _ hb
  · rename_i hne; exact get_setNat_ne _ _ _ _ hne

theorem totalOf_setBal (b : Bank) (a : Addr) (d : String) (n : Nat) (d' : String) :
    (b.setBal a d n).totalOf d' + (if d = d' then b.balOf a d else 0) = b.totalOf d' + (if d = d' then n else 0) := by
  have := sum_filter_setNat (fun (k : Addr × String) => decide (k.2 = d')) b.bal (a, d) n
  simp only [decide_eq_true_eq] at this
  exact this

theorem balOf_le_total (b : Bank) (a : Addr) (d : String) : b.balOf a d ≤ b.totalOf d := by
  have := sum_filter_erase (fun (k : Addr × String) => decide (k.2 = d)) b.bal (a, d)
  simp only [decide_true, if_true] at this
  unfold balOf totalOf
  omega

theorem setBal_inv (b : Bank) (hb : BankInv b) (a : Addr) (d : String) (n : Nat) : BankInv (b.setBal a d n) :=
  ⟨nodup_setNat _ _ _ hb.nodupBal, hb.nodupSupply⟩

theorem setBal_other (b : Bank) (a : Addr) (d : String) (n : Nat) :
    (b.setBal a d n).supply = b.supply ∧ (b.setBal a d n).vest = b.vest ∧ (b.setBal a d n).accts = b.accts :=
  ⟨rfl, rfl, rfl⟩

def Bumped (a : Addr) (d : String) (k : Int) (b b' : Bank) : Prop :=
  ∃ n : Nat, (n : Int) = b.balOf a d + k ∧ b' = b.setBal a d n

theorem Bumped.effect {a : Addr} {d : String} {k : Int} {b b' : Bank} (h : Bumped a d k b b') (hb : BankInv b) :
    BankInv b' ∧ b'.supply = b.supply ∧ b'.vest = b.vest ∧
    (∀ a' d', (b'.balOf a' d' : Int) = b.balOf a' d' + if (a, d) = (a', d') then k else 0) ∧
    (∀ d', (b'.totalOf d' : Int) = b.totalOf d' + if d = d' then k else 0) := by
  obtain ⟨n, hn, rfl⟩ := h
  refine ⟨setBal_inv _ hb _ _ _, rfl, rfl, fun a' d' => ?_, fun d' => ?_⟩
  · rw [balOf_setBal _ hb.nodupBal]; split
    · rename_i he; obtain ⟨rfl, rfl⟩ := Prod.mk.inj he; omega
    · omega
  · have := totalOf_setBal b a d n d'
    split
    · rename_i h; rw [if_pos h, if_pos h] at this; omega
    · rename_i h; rw [if_neg h, if_neg h] at this; omega

theorem subUnlockedCoin_iff {locked : Coins} {a : Addr} {b b' : Bank} {c : Coin} :
    subUnlockedCoin locked a b c = .ok b' ↔
    Coins.amountOf locked c.denom ≤ b.balOf a c.denom ∧ c.amt ≤ b.balOf a c.denom - Coins.amountOf locked c.denom ∧
    b' = b.setBal a c.denom ((b.balOf a c.denom : Int) - c.amt).toNat := by
  simp only [subUnlockedCoin, bind_eq_ok, pure_eq_ok, require_eq_ok, decide_eq_true_eq]
  exact ⟨fun ⟨_, h1, _, h2, h3⟩ => ⟨h1, h2, h3.symm⟩, fun ⟨h1, h2, h3⟩ => ⟨(), h1, (), h2, h3.symm⟩⟩

theorem takeCoin_iff {a : Addr} {b b' : Bank} {c : Coin} :
    takeCoin a b c = .ok b' ↔ c.amt ≤ b.balOf a c.denom ∧ b' = b.setBal a c.denom ((b.balOf a c.denom : Int) - c.amt).toNat := by
  simp only [takeCoin, bind_eq_ok, pure_eq_ok, require_eq_ok, decide_eq_true_eq]
  exact ⟨fun ⟨_, h1, h2⟩ => ⟨h1, h2.symm⟩, fun ⟨h1, h2⟩ => ⟨(), h1, h2.symm⟩⟩

theorem addCoin_iff {a : Addr} {b b' : Bank} {c : Coin} :
    addCoin a b c = .ok b' ↔
    fitsInt256 (b.balOf a c.denom + c.amt) = true ∧ b' = b.setBal a c.denom ((b.balOf a c.denom : Int) + c.amt).toNat := by
  simp only [addCoin, bind_eq_ok, pure_eq_ok, require_eq_ok]
  exact ⟨fun ⟨_, h1, h2⟩ => ⟨h1, h2.symm⟩, fun ⟨h1, h2⟩ => ⟨(), h1, h2.symm⟩⟩

/- The amounts of the three `_bumped` lemmas are written `-1 * c.amt` and `1 * c.amt`: as they stand they are the `sign * c.amt` of
`hstep` in `fold_moved`, which `-c.amt` and `c.amt` would be only after rewriting. -/

/-- with non-negative locked amounts the unlocked part never exceeds the balance, so the subtraction is exact -/
theorem subUnlockedCoin_bumped {locked : Coins} {a : Addr} {b b' : Bank} {c : Coin} (hl : 0 ≤ Coins.amountOf locked c.denom)
    (h : subUnlockedCoin locked a b c = .ok b') : Bumped a c.denom (-1 * c.amt) b b' := by
  obtain ⟨_, h2, rfl⟩ := subUnlockedCoin_iff.mp h
  exact ⟨_, by omega, rfl⟩

theorem takeCoin_bumped {a : Addr} {b b' : Bank} {c : Coin} (h : takeCoin a b c = .ok b') : Bumped a c.denom (-1 * c.amt) b b' := by
  obtain ⟨h1, rfl⟩ := takeCoin_iff.mp h
  exact ⟨_, by omega, rfl⟩

theorem addCoin_bumped {a : Addr} {b b' : Bank} {c : Coin} (hc : 0 ≤ c.amt) (h : addCoin a b c = .ok b') :
    Bumped a c.denom (1 * c.amt) b b' := by
  obtain ⟨_, rfl⟩ := addCoin_iff.mp h
  exact ⟨_, by omega, rfl⟩

/-- the coins `cs` went into (`sign = 1`) or out of (`sign = -1`) account `a` -/
structure Moved (sign : Int) (a : Addr) (cs : Coins) (b b' : Bank) : Prop where
  inv : BankInv b'
  supply : b'.supply = b.supply
  vest : b'.vest = b.vest
  bal : ∀ a' d', (b'.balOf a' d' : Int) = b.balOf a' d' + sign * if a = a' then coinsSum cs d' else 0
  total : ∀ d, (b'.totalOf d : Int) = b.totalOf d + sign * coinsSum cs d

theorem fold_moved (sign : Int) (a : Addr) (f : Bank → Coin → M Bank) (cs : Coins)
    (hstep : ∀ b c b', c ∈ cs → f b c = .ok b' → Bumped a c.denom (sign * c.amt) b b') :
    ∀ (b b' : Bank), BankInv b → cs.foldlM f b = .ok b' → Moved sign a cs b b' := by
  induction cs with
  | nil =>
    intro b b' hb h
    cases h
    exact ⟨hb, rfl, rfl, fun _ _ => by simp [coinsSum], fun _ => by simp [coinsSum]⟩
  | cons c cs ih =>
    intro b b' hb h
    simp only [List.foldlM_cons, bind_eq_ok] at h
    obtain ⟨b1, h1, h2⟩ := h
    obtain ⟨i1, s1, v1, e1, t1⟩ := (hstep b c b1 (by simp) h1).effect hb
    have m := ih (fun x y z hy => hstep x y z (by simp [hy])) b1 b' i1 h2
    refine ⟨m.inv, m.supply.trans s1, m.vest.trans v1, fun a' d' => ?_, fun d => ?_⟩
    · rw [m.bal, e1, coinsSum_cons]
      by_cases ha : a = a'
      · subst ha; simp only [Prod.mk.injEq, true_and, if_true, Int.mul_add]; split <;> omega
      · simp only [Prod.mk.injEq, ha, false_and, if_false]; omega
    · rw [m.total, t1, coinsSum_cons, Int.mul_add]; split <;> omega

theorem subUnlocked_moved {b b' : Bank} {now : Int} {a : Addr} {amt : Coins} (hb : BankInv b)
    (hlock : ∀ d, 0 ≤ Coins.amountOf (lockedCoins b now a) d) (h : b.subUnlocked now a amt = .ok b') :
    Moved (-1) a amt b b' := by
  simp only [subUnlocked, bind_eq_ok, require_eq_ok] at h
  obtain ⟨_, _, h⟩ := h
  exact fold_moved (-1) a _ amt (fun _ c _ _ hy => subUnlockedCoin_bumped (hlock c.denom) hy) b b' hb h

theorem takeCoins_moved {b b' : Bank} {a : Addr} {amt : Coins} (hb : BankInv b) (h : amt.foldlM (takeCoin a) b = .ok b') :
    Moved (-1) a amt b b' :=
  fold_moved (-1) a _ amt (fun _ _ _ _ hy => takeCoin_bumped hy) b b' hb h

theorem addCoins_moved {b b' : Bank} {a : Addr} {amt : Coins} (hb : BankInv b) (h : b.addCoins a amt = .ok b') :
    Coins.isValid amt = true ∧ Moved 1 a amt b b' := by
  simp only [addCoins, bind_eq_ok, require_eq_ok] at h
  obtain ⟨_, hv, h⟩ := h
  exact ⟨hv, fold_moved 1 a _ amt (fun _ c _ hc hy => addCoin_bumped (Int.le_of_lt (allPos_of_valid amt hv c hc)) hy) b b' hb h⟩

/-- `cs` out of `src`, then into `dst`; the steps between and after leave balances and supply alone -/
theorem Moved.transfer {src dst : Addr} {cs : Coins} {b b1 b2 b3 b' : Bank} (m1 : Moved (-1) src cs b b1)
    (h12 : b2.bal = b1.bal ∧ b2.supply = b1.supply) (m2 : Moved 1 dst cs b2 b3) (h3 : b'.bal = b3.bal ∧ b'.supply = b3.supply) :
    BankInv b' ∧ b'.supply = b.supply ∧
    (∀ a' d', (b'.balOf a' d' : Int) =
      b.balOf a' d' - (if src = a' then coinsSum cs d' else 0) + (if dst = a' then coinsSum cs d' else 0)) ∧
    (∀ d, b'.totalOf d = b.totalOf d) := by
  refine ⟨m2.inv.of_eq h3.1 h3.2, by rw [h3.2, m2.supply, h12.2, m1.supply], fun a' d' => ?_, fun d => ?_⟩
  · rw [balOf_congr h3.1, m2.bal, balOf_congr h12.1, m1.bal]; omega
  · have t2 := m2.total d
    rw [totalOf_congr h12.1, m1.total] at t2
    rw [totalOf_congr h3.1]; omega

theorem ensureAccount_frame (b : Bank) (a : Addr) :
    (b.ensureAccount a).bal = b.bal ∧ (b.ensureAccount a).supply = b.supply ∧ (b.ensureAccount a).vest = b.vest := by
  unfold ensureAccount; split <;> exact ⟨rfl, rfl, rfl⟩

theorem balOf_ensureAccount (b : Bank) (a a' : Addr) (d : String) : (b.ensureAccount a).balOf a' d = b.balOf a' d :=
  balOf_congr (ensureAccount_frame b a).1 a' d

theorem ensureAccount_inv (b : Bank) (a : Addr) (hb : BankInv b) : BankInv (b.ensureAccount a) :=
  hb.of_eq (ensureAccount_frame b a).1 (ensureAccount_frame b a).2.1

theorem lockedCoins_vest_eq {b b' : Bank} (h : b'.vest = b.vest) (now : Int) (a : Addr) :
    lockedCoins b' now a = lockedCoins b now a := by
  unfold lockedCoins; rw [h]

theorem locked_nonvesting (b : Bank) (now : Int) (a : Addr) (h : find? b.vest a = none) :
    ∀ d, 0 ≤ Coins.amountOf (lockedCoins b now a) d := by
  intro d; simp [lockedCoins, h, Coins.amountOf]

theorem sendCoins_spec {b b' : Bank} {now : Int} {src dst : Addr} {amt : Coins} (hb : BankInv b)
    (hlock : ∀ d, 0 ≤ Coins.amountOf (lockedCoins b now src) d)
    (h : b.sendCoins now src dst amt = .ok b') :
    BankInv b' ∧ b'.supply = b.supply ∧ b'.vest = b.vest ∧
    (∀ a' d', (b'.balOf a' d' : Int) =
      b.balOf a' d' - (if src = a' then coinsSum amt d' else 0) + (if dst = a' then coinsSum amt d' else 0)) ∧
    (∀ d, b'.totalOf d = b.totalOf d) := by
  simp only [sendCoins, bind_eq_ok, pure_eq_ok] at h
  obtain ⟨b1, h1, b2, h2, rfl⟩ := h
  have m1 := subUnlocked_moved hb hlock h1
  obtain ⟨_, m2⟩ := addCoins_moved m1.inv h2
  have hf := ensureAccount_frame b2 dst
  obtain ⟨i, s, e, t⟩ := m1.transfer ⟨rfl, rfl⟩ m2 ⟨hf.1, hf.2.1⟩
  exact ⟨i, s, by rw [hf.2.2, m2.vest, m1.vest], e, t⟩

theorem sendCoins_ofCoin {b b' : Bank} {t : Int} {src dst : Addr} {denom : String} {amt : Int} (hb : BankInv b)
    (hlock : ∀ d, 0 ≤ Coins.amountOf (lockedCoins b t src) d)
    (h : b.sendCoins t src dst (Coins.ofCoin { denom := denom, amt := amt }) = .ok b') :
    0 ≤ amt ∧ BankInv b' ∧ b'.vest = b.vest ∧
    (∀ a d, (b'.balOf a d : Int) = b.balOf a d - (if src = a then (if denom = d then amt else 0) else 0) +
      (if dst = a then (if denom = d then amt else 0) else 0)) := by
  obtain ⟨i, _, v, e, _⟩ := sendCoins_spec hb hlock h
  refine ⟨?_, i, v, fun a d => by rw [e, coinsSum_ofCoin]⟩
  unfold Coins.ofCoin at h
  split at h
  · rename_i h0; exact Int.le_of_eq (Eq.symm h0)
  · simp only [sendCoins, subUnlocked, bind_eq_ok, require_eq_ok] at h
    obtain ⟨_, ⟨_, hv, _⟩, _⟩ := h
    simp only [Coins.isValid, Bool.and_eq_true, decide_eq_true_eq] at hv
    omega

theorem trackDelegation_frame (b : Bank) (now : Int) (d : Addr) (amt : Coins) :
    (b.trackDelegation now d amt).bal = b.bal ∧ (b.trackDelegation now d amt).supply = b.supply ∧
    (∀ a, find? b.vest a = none → find? (b.trackDelegation now d amt).vest a = none) := by
  unfold trackDelegation
  split
  · exact ⟨rfl, rfl, fun _ h => h⟩
  · rename_i v hv
    refine ⟨rfl, rfl, fun a ha => ?_⟩
    rw [find_insert_ne _ _ _ _ (fun e => by rw [e, ha] at hv; cases hv)]; exact ha

theorem trackUndelegation_frame (b : Bank) (d : Addr) (amt : Coins) :
    (b.trackUndelegation d amt).bal = b.bal ∧ (b.trackUndelegation d amt).supply = b.supply ∧
    (∀ a, find? b.vest a = none → find? (b.trackUndelegation d amt).vest a = none) := by
  unfold trackUndelegation
  split
  · exact ⟨rfl, rfl, fun _ h => h⟩
  · rename_i v hv
    refine ⟨rfl, rfl, fun a ha => ?_⟩
    rw [find_insert_ne _ _ _ _ (fun e => by rw [e, ha] at hv; cases hv)]; exact ha

theorem delegate_spec {b b' : Bank} {now : Int} {d m : Addr} {amt : Coins} (hb : BankInv b)
    (h : b.delegate now d m amt = .ok b') :
    BankInv b' ∧ b'.supply = b.supply ∧ (∀ a, find? b.vest a = none → find? b'.vest a = none) ∧
    (∀ a' d', (b'.balOf a' d' : Int) =
      b.balOf a' d' - (if d = a' then coinsSum amt d' else 0) + (if m = a' then coinsSum amt d' else 0)) ∧
    (∀ d, b'.totalOf d = b.totalOf d) := by
  simp only [delegate, bind_eq_ok, require_eq_ok] at h
  obtain ⟨_, _, b1, h1, h2⟩ := h
  have m1 := takeCoins_moved hb h1
  have hf := trackDelegation_frame b1 now d amt
  obtain ⟨_, m2⟩ := addCoins_moved (m1.inv.of_eq hf.1 hf.2.1) h2
  obtain ⟨i, s, e, t⟩ := m1.transfer ⟨hf.1, hf.2.1⟩ m2 ⟨rfl, rfl⟩
  exact ⟨i, s, fun a ha => by rw [m2.vest]; exact hf.2.2 a (by rw [m1.vest]; exact ha), e, t⟩

theorem undelegate_spec {b b' : Bank} {now : Int} {m d : Addr} {amt : Coins} (hb : BankInv b)
    (hlock : ∀ dn, 0 ≤ Coins.amountOf (lockedCoins b now m) dn)
    (h : b.undelegate now m d amt = .ok b') :
    BankInv b' ∧ b'.supply = b.supply ∧ (∀ a, find? b.vest a = none → find? b'.vest a = none) ∧
    (∀ a' d', (b'.balOf a' d' : Int) =
      b.balOf a' d' - (if m = a' then coinsSum amt d' else 0) + (if d = a' then coinsSum amt d' else 0)) ∧
    (∀ d, b'.totalOf d = b.totalOf d) := by
  simp only [undelegate, bind_eq_ok, require_eq_ok] at h
  obtain ⟨_, _, b1, h1, h2⟩ := h
  have m1 := subUnlocked_moved hb hlock h1
  have hf := trackUndelegation_frame b1 d amt
  obtain ⟨_, m2⟩ := addCoins_moved (m1.inv.of_eq hf.1 hf.2.1) h2
  obtain ⟨i, s, e, t⟩ := m1.transfer ⟨hf.1, hf.2.1⟩ m2 ⟨rfl, rfl⟩
  exact ⟨i, s, fun a ha => by rw [m2.vest]; exact hf.2.2 a (by rw [m1.vest]; exact ha), e, t⟩

theorem undelegate_valid {b b' : Bank} {now : Int} {m d : Addr} {amt : Coins} (h : b.undelegate now m d amt = .ok b') :
    Coins.isValid amt = true := by
  simp only [undelegate, bind_eq_ok, require_eq_ok] at h
  exact h.choose_spec.1

theorem supplyOf_set (b : Bank) (hb : NoDupKeys b.supply) (d : String) (n : Nat) (d' : String) :
    ({ b with supply := setNat b.supply d n } : Bank).supplyOf d' = if d = d' then n else b.supplyOf d' := by
  unfold supplyOf
  split
  · rename_i he; subst he; exact get_setNat_eq _ _ _ hb
  · rename_i hne; exact get_setNat_ne _ _ _ _ hne

theorem addSupply_spec (b b' : Bank) (c : Coin) (hb : BankInv b) (hc : 0 < c.amt) (h : addSupply b c = .ok b') :
    BankInv b' ∧ b'.bal = b.bal ∧ b'.vest = b.vest ∧
    (∀ d', (b'.supplyOf d' : Int) = b.supplyOf d' + (if c.denom = d' then c.amt else 0)) := by
  simp only [addSupply, bind_eq_ok, pure_eq_ok, require_eq_ok] at h
  obtain ⟨_, _, rfl⟩ := h
  refine ⟨⟨hb.nodupBal, nodup_setNat _ _ _ hb.nodupSupply⟩, rfl, rfl, fun d' => ?_⟩
  rw [supplyOf_set _ hb.nodupSupply]
  split
  · rename_i he; subst he; omega
  · omega

theorem fold_supply_spec (cs : Coins) (hpos : ∀ c ∈ cs, 0 < c.amt) :
    ∀ (b b' : Bank), BankInv b → cs.foldlM addSupply b = .ok b' →
      BankInv b' ∧ b'.bal = b.bal ∧ b'.vest = b.vest ∧
      (∀ d', (b'.supplyOf d' : Int) = b.supplyOf d' + coinsSum cs d') := by
  induction cs with
  | nil => intro b b' hb h; cases h; exact ⟨hb, rfl, rfl, by simp [coinsSum]⟩
  | cons c cs ih =>
    intro b b' hb h
    simp only [List.foldlM_cons, bind_eq_ok] at h
    obtain ⟨b1, h1, h2⟩ := h
    obtain ⟨i1, s1, v1, e1⟩ := addSupply_spec b b1 c hb (hpos c (by simp)) h1
    obtain ⟨i2, s2, v2, e2⟩ := ih (fun x hx => hpos x (by simp [hx])) b1 b' i1 h2
    refine ⟨i2, s2.trans s1, v2.trans v1, fun d' => ?_⟩
    rw [e2, e1, coinsSum_cons]; omega

theorem mint_spec {b b' : Bank} {m : Addr} {amt : Coins} (hb : BankInv b) (h : b.mint m amt = .ok b') :
    BankInv b' ∧ b'.vest = b.vest ∧
    (∀ a' d', (b'.balOf a' d' : Int) = b.balOf a' d' + if m = a' then coinsSum amt d' else 0) ∧
    (∀ d', (b'.supplyOf d' : Int) = b.supplyOf d' + coinsSum amt d') ∧
    (∀ d', (b'.totalOf d' : Int) = b.totalOf d' + coinsSum amt d') := by
  simp only [mint, bind_eq_ok] at h
  obtain ⟨b1, h1, h2⟩ := h
  obtain ⟨hv, m1⟩ := addCoins_moved hb h1
  obtain ⟨i2, bl2, v2, e2⟩ := fold_supply_spec amt (allPos_of_valid amt hv) b1 b' m1.inv h2
  refine ⟨i2, by rw [v2, m1.vest], fun a' d' => ?_, fun d' => ?_, fun d' => ?_⟩
  · rw [balOf_congr bl2, m1.bal]; omega
  · rw [e2]; unfold supplyOf; rw [m1.supply]
  · rw [totalOf_congr bl2, m1.total]; omega

end Bank

open Bank

theorem sendCoins_single_succeeds (b : Bank) (now : Int) (src dst : Addr) (c : Coin) (hpos : 0 < c.amt)
    (hden : c.denom.isEmpty = false) (hb : BankInv b) (hv : find? b.vest src = none) (hfunds : c.amt ≤ b.balOf src c.denom)
    (hfit : ∀ n : Nat, n ≤ b.balOf dst c.denom → fitsInt256 ((n : Int) + c.amt) = true) :
    ∃ b', b.sendCoins now src dst [c] = .ok b' := by
  have hlocked : lockedCoins b now src = [] := by simp [lockedCoins, hv]
  have h1 : subUnlockedCoin [] src b c = .ok (b.setBal src c.denom ((b.balOf src c.denom : Int) - c.amt).toNat) :=
    subUnlockedCoin_iff.mpr ⟨Int.natCast_nonneg _, by rw [show Coins.amountOf [] c.denom = 0 from rfl, Int.sub_zero]; exact hfunds, rfl⟩
  have h2 : addCoin dst (b.setBal src c.denom ((b.balOf src c.denom : Int) - c.amt).toNat) c = .ok _ :=
    addCoin_iff.mpr ⟨hfit _ (by
      -- the withdrawal has not raised the recipient's balance
      rw [balOf_setBal _ hb.nodupBal]
      split
      · rename_i he; obtain ⟨rfl, _⟩ := Prod.mk.inj he; omega
      · exact Nat.le_refl _), rfl⟩
  simp only [sendCoins, subUnlocked, addCoins, isValid_single hpos hden, require_true, hlocked, List.foldlM_cons, List.foldlM_nil,
    bind, Except.bind, pure, Except.pure, h1, h2]
  exact ⟨_, rfl⟩

theorem mint_single_succeeds (b : Bank) (m : Addr) (c : Coin) (hpos : 0 < c.amt) (hden : c.denom.isEmpty = false)
    (h1 : fitsInt256 ((b.balOf m c.denom : Int) + c.amt) = true) (h2 : fitsInt256 ((b.supplyOf c.denom : Int) + c.amt) = true) :
    ∃ b', b.mint m [c] = .ok b' := by
  have hsup : (b.setBal m c.denom ((b.balOf m c.denom : Int) + c.amt).toNat).supplyOf c.denom = b.supplyOf c.denom := rfl
  simp only [mint, addCoins, isValid_single hpos hden, require_true, List.foldlM_cons, List.foldlM_nil, bind, Except.bind, pure,
    Except.pure, addCoin_iff.mpr ⟨h1, rfl⟩, addSupply, hsup, h2]
  exact ⟨_, rfl⟩

theorem delegate_single_succeeds (b : Bank) (now : Int) (a m : Addr) (c : Coin) (hpos : 0 < c.amt) (hden : c.denom.isEmpty = false)
    (hne : a ≠ m) (hfunds : c.amt ≤ b.balOf a c.denom)
    (hfit : fitsInt256 ((b.balOf m c.denom : Int) + c.amt) = true) :
    ∃ b', b.delegate now a m [c] = .ok b' := by
  have h1 := takeCoin_iff.mpr ⟨hfunds, rfl⟩
  -- neither the withdrawal from `a` nor the vesting bookkeeping touches the balance of `m`
  have hbal : ((b.setBal a c.denom ((b.balOf a c.denom : Int) - c.amt).toNat).trackDelegation now a [c]).balOf m c.denom =
      b.balOf m c.denom :=
    (balOf_congr (trackDelegation_frame _ now a [c]).1 m c.denom).trans
      (get_setNat_ne _ _ _ _ (fun e => hne (Prod.mk.inj e).1))
  have h2 := addCoin_iff.mpr ⟨hbal.symm ▸ hfit, rfl⟩
  simp only [delegate, addCoins, isValid_single hpos hden, require_true, List.foldlM_cons, List.foldlM_nil, bind, Except.bind, pure,
    Except.pure, h1, h2]
  exact ⟨_, rfl⟩

/-- the bank side of `EB.mintAndLock` -/
theorem mintLock_bank {b b1 b2 b3 : Bank} {now : Int} {a : Addr} {c : Coin} (hbank : BankInv b)
    (hnv : find? b.vest Ment = none) (h1 : b.mint Ment [c] = .ok b1)
    (h2 : b1.sendCoins now Ment a [c] = .ok b2) (h3 : b2.delegate now a Ment [c] = .ok b3) :
    BankInv b3 ∧
    (∀ a' d', (b3.balOf a' d' : Int) = b.balOf a' d' + (if a' = Ment ∧ d' = c.denom then c.amt else 0)) ∧
    (∀ d', (b3.supplyOf d' : Int) = b.supplyOf d' + (if d' = c.denom then c.amt else 0)) ∧
    (∀ m, find? b.vest m = none → find? b3.vest m = none) := by
  obtain ⟨i1, v1, e1, sup1, _⟩ := mint_spec hbank h1
  obtain ⟨i2, s2, v2, e2, _⟩ := sendCoins_spec i1 (locked_nonvesting b1 _ Ment (by rw [v1]; exact hnv)) h2
  obtain ⟨i3, s3, v3, e3, _⟩ := delegate_spec i2 h3
  refine ⟨i3, fun a' d' => ?_, fun d' => ?_, fun m hm => v3 m (by rw [v2, v1]; exact hm)⟩
  · rw [e3, e2, e1, coinsSum_single]
    by_cases hm' : a' = Ment
    · subst hm'
      simp only [true_and, if_true, eq_comm]; omega
    · simp only [hm', Ne.symm hm', false_and, if_false]; omega
  · rw [show b3.supplyOf d' = b1.supplyOf d' by unfold supplyOf; rw [s3, s2], sup1 d', coinsSum_single]
    simp only [eq_comm]

theorem mintLock_bank_succeeds (b : Bank) (now : Int) (a : Addr) (c : Coin) (hpos : 0 < c.amt) (hden : c.denom.isEmpty = false)
    (hb : BankInv b) (hnv : find? b.vest Ment = none) (haM : a ≠ Ment)
    (hM : (b.balOf Ment c.denom : Int) + c.amt < 2 ^ 255) (ha : (b.balOf a c.denom : Int) + c.amt < 2 ^ 255)
    (hs : (b.supplyOf c.denom : Int) + c.amt < 2 ^ 255) :
    ∃ b1 b2 b3, b.mint Ment [c] = .ok b1 ∧ b1.sendCoins now Ment a [c] = .ok b2 ∧ b2.delegate now a Ment [c] = .ok b3 := by
  have nn : ∀ n : Nat, (0 : Int) ≤ n + c.amt := fun n => Int.add_nonneg (Int.natCast_nonneg n) (Int.le_of_lt hpos)
  obtain ⟨b1, h1⟩ := mint_single_succeeds b Ment c hpos hden (fits_of_lt _ (nn _) hM) (fits_of_lt _ (nn _) hs)
  -- after the mint the escrow holds `c` more and `a` what it held
  obtain ⟨i1, v1, e1, _⟩ := mint_spec hb h1
  have hnv1 : find? b1.vest Ment = none := v1 ▸ hnv
  have hb1M : (b1.balOf Ment c.denom : Int) = b.balOf Ment c.denom + c.amt := by rw [e1, if_pos rfl, coinsSum_single, if_pos rfl]
  have hb1a : (b1.balOf a c.denom : Int) = b.balOf a c.denom := by rw [e1, if_neg haM.symm, Int.add_zero]
  obtain ⟨b2, h2⟩ := sendCoins_single_succeeds b1 now Ment a c hpos hden i1 hnv1
    (hb1M ▸ Int.le_add_of_nonneg_left (Int.natCast_nonneg _))
    (fun n hn => fits_of_lt _ (nn n) (Int.lt_of_le_of_lt (Int.add_le_add_right (hb1a ▸ Int.ofNat_le.mpr hn) _) ha))
  -- after the transfer the escrow is back where it was and `a` holds `c` more
  obtain ⟨_, _, _, e2, _⟩ := sendCoins_spec i1 (locked_nonvesting b1 _ Ment hnv1) h2
  have hb2M : (b2.balOf Ment c.denom : Int) = b.balOf Ment c.denom := by
    rw [e2, if_pos rfl, if_neg haM, coinsSum_single, if_pos rfl, hb1M, Int.add_zero, Int.add_sub_cancel]
  have hb2a : (b2.balOf a c.denom : Int) = b.balOf a c.denom + c.amt := by
    rw [e2, if_neg haM.symm, if_pos rfl, coinsSum_single, if_pos rfl, hb1a, Int.sub_zero]
  obtain ⟨b3, h3⟩ := delegate_single_succeeds b2 now a Ment c hpos hden haM
    (hb2a ▸ Int.le_add_of_nonneg_left (Int.natCast_nonneg _)) (fits_of_lt _ (nn _) (hb2M ▸ hM))
  exact ⟨b1, b2, b3, h1, h2, h3⟩

end Mainchain
