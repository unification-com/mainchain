import Mainchain.Lemmas.Bank
import Mainchain.Model.Stream
/- Which accounts' balances an operation can touch at all.  `BankRel R ok t` : a relation every `SendCoins` between `ok`
endpoints satisfies. -/
namespace Mainchain
open AL Bank

/-- An implication out of `BankInv b`, not a relation between two well-formed banks: so it is reflexive and transitive as it stands and
carries the invariant along a sequence of updates (`SameTotals` is built the same way). -/
def KeepsAt (a : Addr) (b b' : Bank) : Prop :=
  BankInv b → BankInv b' ∧ (∀ d, b'.balOf a d = b.balOf a d) ∧ b'.supply = b.supply

theorem KeepsAt.refl (a : Addr) (b : Bank) : KeepsAt a b b := fun h => ⟨h, fun _ => rfl, rfl⟩

theorem KeepsAt.trans {a : Addr} {b1 b2 b3 : Bank} (h1 : KeepsAt a b1 b2) (h2 : KeepsAt a b2 b3) : KeepsAt a b1 b3 := by
  intro hb
  obtain ⟨i2, e2, s2⟩ := h1 hb
  obtain ⟨i3, e3, s3⟩ := h2 i2
  exact ⟨i3, fun d => (e3 d).trans (e2 d), s3.trans s2⟩

theorem setBal_keeps (a x : Addr) (d : String) (n : Nat) (b : Bank) (h : a ≠ x) : KeepsAt a b (b.setBal x d n) := by
  intro hb
  refine ⟨setBal_inv b hb x d n, fun d' => ?_, rfl⟩
  rw [balOf_setBal _ hb.nodupBal, if_neg (fun he => h (Prod.mk.inj he).1.symm)]

theorem subUnlockedCoin_keeps (a src : Addr) (locked : Coins) (b b' : Bank) (c : Coin) (h : a ≠ src)
    (hx : subUnlockedCoin locked src b c = .ok b') : KeepsAt a b b' :=
  (subUnlockedCoin_iff.mp hx).2.2 ▸ setBal_keeps a src _ _ b h

theorem addCoin_keeps (a dst : Addr) (b b' : Bank) (c : Coin) (h : a ≠ dst) (hx : addCoin dst b c = .ok b') : KeepsAt a b b' :=
  (addCoin_iff.mp hx).2 ▸ setBal_keeps a dst _ _ b h

theorem takeCoin_keeps (a src : Addr) (b b' : Bank) (c : Coin) (h : a ≠ src) (hx : takeCoin src b c = .ok b') : KeepsAt a b b' :=
  (takeCoin_iff.mp hx).2 ▸ setBal_keeps a src _ _ b h

theorem foldlM_keeps (a : Addr) (f : Bank → Coin → M Bank) (cs : Coins)
    (hstep : ∀ b c b', f b c = .ok b' → KeepsAt a b b') (b b' : Bank) (h : cs.foldlM f b = .ok b') : KeepsAt a b b' :=
  foldlM_rel (KeepsAt a) (KeepsAt.refl a) (fun _ _ _ h1 h2 => h1.trans h2) f cs (fun x c y _ hy => hstep x c y hy) b b' h

theorem ensureAccount_keeps (a x : Addr) (b : Bank) : KeepsAt a b (b.ensureAccount x) :=
  fun hb => ⟨ensureAccount_inv b x hb, fun d => balOf_ensureAccount b x a d, (ensureAccount_frame b x).2.1⟩

theorem sendCoins_keeps (a src dst : Addr) (now : Int) (amt : Coins) (b b' : Bank) (h1 : a ≠ src) (h2 : a ≠ dst)
    (hx : b.sendCoins now src dst amt = .ok b') : KeepsAt a b b' := by
  simp only [sendCoins, subUnlocked, addCoins, bind_eq_ok, pure_eq_ok] at hx
  obtain ⟨b1, ⟨_, _, hs⟩, b2, ⟨_, _, ha⟩, rfl⟩ := hx
  exact ((foldlM_keeps a _ amt (fun x c y hy => subUnlockedCoin_keeps a src _ x y c h1 hy) b b1 hs).trans
    (foldlM_keeps a _ amt (fun x c y hy => addCoin_keeps a dst x y c h2 hy) b1 b2 ha)).trans (ensureAccount_keeps a dst b2)

structure BankRel (R : Bank → Bank → Prop) (ok : Addr → Prop) (t : Int) : Prop where
  refl : ∀ b, R b b
  trans : ∀ a b c, R a b → R b c → R a c
  send : ∀ (b b' : Bank) (src dst : Addr) (amt : Coins), ok src → ok dst → b.sendCoins t src dst amt = .ok b' → R b b'
  ensure : ∀ (b : Bank) (x : Addr), R b (b.ensureAccount x)

theorem keepsAt_rel (a : Addr) (t : Int) : BankRel (KeepsAt a) (fun x => a ≠ x) t :=
  ⟨KeepsAt.refl a, fun _ _ _ h1 h2 => h1.trans h2, fun b b' src dst amt h1 h2 h => sendCoins_keeps a src dst t amt b b' h1 h2 h,
   fun b x => ensureAccount_keeps a x b⟩

theorem ne_of_blocked {blocked : Addr → Bool} {a m : Addr} (ha : blocked a = false) (hm : blocked m = true) : a ≠ m :=
  fun e => by rw [e, hm] at ha; cases ha

/-- the optional one-coin transfer that every payment out of the stream escrow is -/
def Xfer (t : Int) (src dst : Addr) (denom : String) (amt : Int) (b b' : Bank) : Prop :=
  if 0 < amt then b.sendCoins t src dst [{ denom := denom, amt := amt }] = .ok b' else b' = b

theorem payFee_iff {b b' : Bank} {t : Int} {denom : String} {fee : Int} :
    payFee b t denom fee = .ok b' ↔ Xfer t Mstr Mfee denom fee b b' := by
  unfold payFee Xfer
  split
  · exact Iff.rfl
  · exact ⟨fun h => by cases h; rfl, fun h => by rw [h]⟩

theorem payOut_iff {b b' : Bank} {t : Int} {blocked : Addr → Bool} {to : Addr} {denom : String} {amt : Int} :
    payOut b t blocked to denom amt = .ok b' ↔ (0 < amt → blocked to = false) ∧ Xfer t Mstr to denom amt b b' := by
  unfold payOut Xfer
  split
  · rename_i hp
    simp only [bind_eq_ok, require_eq_ok, Bool.not_eq_true', hp, true_implies]
    exact ⟨fun ⟨_, h1, h2⟩ => ⟨h1, h2⟩, fun ⟨h1, h2⟩ => ⟨(), h1, h2⟩⟩
  · rename_i hp
    exact ⟨fun h => by cases h; exact ⟨fun h' => absurd h' hp, rfl⟩, fun h => by rw [h.2]⟩

/-- the payee matters only if something is paid -/
theorem Xfer.rel {R : Bank → Bank → Prop} {ok : Addr → Prop} {t : Int} (hR : BankRel R ok t) {src dst : Addr}
    {denom : String} {amt : Int} {b b' : Bank} (hs : ok src) (hd : 0 < amt → ok dst) (h : Xfer t src dst denom amt b b') :
    R b b' := by
  unfold Xfer at h
  split at h
  · rename_i hp; exact hR.send _ _ _ _ _ hs (hd hp) h
  · rw [h]; exact hR.refl b

theorem payFee_keeps (a : Addr) (b b' : Bank) (now : Int) (denom : String) (fee : Int) (h1 : a ≠ Mstr) (h2 : a ≠ Mfee)
    (hx : payFee b now denom fee = .ok b') : KeepsAt a b b' :=
  (payFee_iff.mp hx).rel (keepsAt_rel a now) h1 (fun _ => h2)

theorem payOut_keeps (a : Addr) (b b' : Bank) (now : Int) (blocked : Addr → Bool) (to : Addr) (denom : String) (amt : Int)
    (h1 : a ≠ Mstr) (hbl : blocked a = true) (hx : payOut b now blocked to denom amt = .ok b') : KeepsAt a b b' := by
  obtain ⟨hto, hx⟩ := payOut_iff.mp hx
  exact hx.rel (keepsAt_rel a now) h1 (fun hp => (ne_of_blocked (hto hp) hbl).symm)

theorem Xfer.spec {t : Int} {src dst : Addr} {denom : String} {amt : Int} {b b' : Bank} (h : Xfer t src dst denom amt b b')
    (hb : BankInv b) (hv : find? b.vest src = none) (h0 : 0 ≤ amt) (hne : 0 < amt → dst ≠ src) :
    BankInv b' ∧ b'.vest = b.vest ∧
    (∀ d, (b'.balOf src d : Int) = b.balOf src d - if denom = d then amt else 0) ∧
    (∀ a d, a ≠ src → (b'.balOf a d : Int) = b.balOf a d + if dst = a then (if denom = d then amt else 0) else 0) := by
  unfold Xfer at h
  split at h
  · rename_i hp
    obtain ⟨i, _, v, e, _⟩ := sendCoins_spec hb (locked_nonvesting b t src hv) h
    refine ⟨i, v, fun d => ?_, fun a d ha => ?_⟩
    · rw [e, if_pos rfl, if_neg (hne hp), coinsSum_single, Int.add_zero]
    · rw [e, if_neg (Ne.symm ha), coinsSum_single, Int.sub_zero]
  · subst h
    have : amt = 0 := by omega
    subst this
    exact ⟨hb, rfl, fun d => by simp only [ite_self]; omega, fun a d _ => by simp only [ite_self]; omega⟩

/-- two summands below 2^255 fit the 256-bit `sdk.Int`: hence the bounds on the amount and on the payee's balance -/
theorem xfer_succeeds (b : Bank) (t : Int) (src dst : Addr) (denom : String) (amt : Int) (hden : denom.isEmpty = false)
    (hb : BankInv b) (hv : find? b.vest src = none) (h0 : 0 ≤ amt) (hfunds : amt ≤ b.balOf src denom)
    (hroom : (b.balOf dst denom : Int) < 2 ^ 255) (hamt : amt < 2 ^ 255) : ∃ b', Xfer t src dst denom amt b b' := by
  unfold Xfer
  split
  · rename_i hp
    exact sendCoins_single_succeeds b t src dst { denom := denom, amt := amt } hp hden hb hv hfunds
      (fun n hn => fits_of_small n amt h0 (Int.lt_of_le_of_lt (Int.ofNat_le.mpr hn) hroom) hamt)
  · exact ⟨b, rfl⟩

end Mainchain
