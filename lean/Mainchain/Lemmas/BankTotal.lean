import Mainchain.Lemmas.EntBooks
namespace Mainchain
open AL Bank

def Balanced (b : Bank) : Prop := ∀ d, (b.totalOf d : Int) = b.supplyOf d

def SaneAt (t : Int) (b : Bank) : Prop := ∀ a d, 0 ≤ Coins.amountOf (lockedCoins b t a) d

theorem saneAt_of_vest {t : Int} {b b' : Bank} (h : b'.vest = b.vest) (hs : SaneAt t b) : SaneAt t b' := by
  intro a d; rw [lockedCoins_vest_eq h]; exact hs a d

def SameTotals (t : Int) (b b' : Bank) : Prop :=
  BankInv b → SaneAt t b → BankInv b' ∧ SaneAt t b' ∧ (∀ d, b'.totalOf d = b.totalOf d) ∧ b'.supply = b.supply

theorem sameTotals_rel (t : Int) : BankRel (SameTotals t) (fun _ => True) t where
  refl _ h hs := ⟨h, hs, fun _ => rfl, rfl⟩
  trans _ _ _ h1 h2 ha hs := by
    obtain ⟨ib, sb, e1, s1⟩ := h1 ha hs
    obtain ⟨ic, sc, e2, s2⟩ := h2 ib sb
    exact ⟨ic, sc, fun d => (e2 d).trans (e1 d), s2.trans s1⟩
  send b b' src dst amt _ _ h hb hs := by
    obtain ⟨i, s, v, _, e⟩ := sendCoins_spec hb (hs src) h
    exact ⟨i, saneAt_of_vest v hs, e, s⟩
  ensure b x hb hs :=
    have hf := ensureAccount_frame b x
    ⟨ensureAccount_inv b x hb, saneAt_of_vest hf.2.2 hs, totalOf_congr hf.1, hf.2.1⟩

theorem balanced_of_totals {b b' : Bank} (hbal : Balanced b) (e : ∀ d, b'.totalOf d = b.totalOf d) (s : b'.supply = b.supply) :
    Balanced b' := by
  intro d
  rw [e d]; unfold supplyOf; rw [s]; exact hbal d

theorem balanced_step {s s' : State} (hq : BankSane s) (hstr : StreamInv (toSB s)) (hbal : Balanced s.bank) (h : FineStep s s') :
    Balanced s'.bank := by
  have hsane : SaneAt s.nowSec s.bank := hq
  cases h with
  | leaf wall m r hl _ hsig hx =>
    obtain ⟨_, _, e, su⟩ := leaf_bank_rel (SameTotals s.nowSec) (fun _ => True) (sameTotals_rel _) trivial trivial
      (fun _ _ => trivial) (fun _ _ => trivial) hl hsig hx hstr.bank hsane
    exact balanced_of_totals hbal e su
  | ante tx hu hg hx =>
    cases hx with
    | none hs => subst hs; exact hbal
    | unlock payer x _ _ _ hx hs =>
      subst hs
      rcases unlockForFees_bank hx with he | ⟨amt, hund⟩
      · show Balanced x.bank; rw [he]; exact hbal
      · obtain ⟨_, su, _, _, e⟩ := undelegate_spec hstr.bank (hq Ment) hund
        exact balanced_of_totals hbal e su
    | deduct payer src b _ _ hx hs =>
      subst hs
      obtain ⟨_, su, _, _, e⟩ := sendCoins_spec hstr.bank (hq src) hx
      exact balanced_of_totals hbal e su
  | time t _ hs => subst hs; exact hbal
  | complete id x hx hs =>
    subst hs
    rcases completeOne_bank hx with he | ⟨r, c, b1, b2, h1, h2, h3⟩
    · show Balanced x.bank; rw [he]; exact hbal
    · obtain ⟨i1, v1, _, sup1, tot1⟩ := mint_spec (b := s.bank) hstr.bank h1
      obtain ⟨i2, s2, _, _, e2⟩ := sendCoins_spec i1 (saneAt_of_vest v1 hsane Ment) h2
      obtain ⟨_, s3, _, _, e3⟩ := delegate_spec i2 h3
      refine balanced_of_totals (balanced_of_totals (fun d => ?_) e2 s2) e3 s3
      rw [tot1, sup1, hbal d]
  | tally id e _ hs => subst hs; exact hbal

theorem balanced_reachable (g : GenCfg) (hg : GenBooksValid g) (hb : Balanced (initState g).bank) (s : State)
    (h : FineReach g (BooksQ g.ent.denom) s) : Balanced s.bank := by
  induction h with
  | init => exact hb
  | step a b hr hq hstep ih => exact balanced_step hq.1 (entAll_reachable g hg a hr).str ih hstep

end Mainchain
