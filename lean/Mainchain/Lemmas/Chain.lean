import Mainchain.Lemmas.Steps
/-
The ante chain and the transition system of the application.  Of the decorators only the fee unlock and the fee
deduction change the model's state, which has neither public keys nor sequence numbers (`AnteEffect`).
-/
namespace Mainchain

inductive AnteEffect (s : State) (tx : Tx) (s' : State) : Prop where
  | none (hs : s' = s)
  | unlock (payer : Addr) (x : EB) (hp : tx.payer = some payer)
      (hk : (tx.hasKind .wrk || tx.hasKind .bcn) = true) (hl : s.ent.isLocked payer = true)
      (h : EB.unlockForFees { ent := s.ent, bank := s.bank } s.nowSec payer tx.fee = .ok x)
      (hs : s' = { s with ent := x.ent, bank := x.bank })
  | deduct (payer src : Addr) (b : Bank) (hp : tx.payer = some payer)
      (hsrc : src = payer ∨ (src, payer) ∈ s.allowances)
      (h : s.bank.sendCoins s.nowSec src Mfee tx.fee = .ok b)
      (hs : s' = { s with bank := b })

theorem Tx.payerM_iff (tx : Tx) (a : Addr) : tx.payerM = .ok a ↔ tx.payer = some a := by
  unfold Tx.payerM
  cases tx.payer <;> simp

theorem stepValidateBasicR_id {mode : Mode} {s s' : State} {tx : Tx} (h : stepValidateBasicR mode s tx = .ok s') : s' = s := by
  unfold stepValidateBasicR at h
  split at h
  · cases h; rfl
  · simp only [stepValidateBasic, bind_eq_ok, pure_eq_ok] at h; obtain ⟨_, _, _, _, rfl⟩ := h; rfl

theorem feeDecorator_id {k : RegKind} {mode : Mode} {s s' : State} {tx : Tx} (h : feeDecorator k mode s tx = .ok s') :
    s' = s := by
  unfold feeDecorator at h
  split at h
  · cases h; rfl
  · simp only [bind_eq_ok, pure_eq_ok] at h
    obtain ⟨_, _, _, _, _, _, rfl⟩ := h; rfl

theorem stepSetPubKey_id {s s' : State} {tx : Tx} (h : stepSetPubKey s tx = .ok s') : s' = s := by
  simp only [stepSetPubKey, bind_eq_ok, pure_eq_ok] at h
  obtain ⟨_, _, _, _, _, _, rfl⟩ := h; rfl

theorem stepSigVerificationR_id {mode : Mode} {s s' : State} {tx : Tx} (h : stepSigVerificationR mode s tx = .ok s') :
    s' = s := by
  unfold stepSigVerificationR at h
  split at h
  · cases h; rfl
  · simp only [stepSigVerification, bind_eq_ok] at h
    obtain ⟨_, _, h⟩ := h
    split at h <;> cases h
    rfl

theorem unlockDecorator_effect {s s' : State} {tx : Tx} (h : unlockDecorator s tx = .ok s') : AnteEffect s tx s' := by
  simp only [unlockDecorator, bind_eq_ok, Tx.payerM_iff] at h
  obtain ⟨payer, hp, h⟩ := h
  split at h
  · rename_i hc
    simp only [bind_eq_ok, pure_eq_ok] at h
    obtain ⟨x, hx, rfl⟩ := h
    simp only [Bool.and_eq_true] at hc
    exact .unlock payer x hp hc.1 hc.2 hx rfl
  · exact .none (Except.ok.inj h).symm

theorem feeSource_ok {s : State} {tx : Tx} {payer src : Addr} (h : feeSource s tx payer = .ok src) :
    src = payer ∨ (src, payer) ∈ s.allowances := by
  unfold feeSource at h
  split at h
  · exact Or.inl (Except.ok.inj h).symm
  · simp only [bind_eq_ok, pure_eq_ok, require_eq_ok, Bool.or_eq_true, decide_eq_true_eq, List.contains_iff_mem] at h
    obtain ⟨_, hc, rfl⟩ := h
    exact hc

theorem asInsufficientFunds_ok {α : Type} {x : M α} {v : α} (h : asInsufficientFunds x = .ok v) : x = .ok v := by
  cases x with
  | ok a => exact h
  | error e => cases e <;> cases h

theorem deductFee_effect {s s' : State} {tx : Tx} (h : deductFee s tx = .ok s') : AnteEffect s tx s' := by
  simp only [deductFee, bind_eq_ok, Tx.payerM_iff] at h
  obtain ⟨payer, hp, src, hsrc, _, _, h⟩ := h
  split at h
  · exact .none (Except.ok.inj h).symm
  · simp only [bind_eq_ok, pure_eq_ok] at h
    obtain ⟨_, _, b, hb, rfl⟩ := h
    exact .deduct payer src b hp (feeSource_ok hsrc) (asInsufficientFunds_ok hb) rfl

/-- For the four decorators by name the caller puts the literal for `name`, and `rfl` for the premise: evaluating the
string `match` of `anteStep` at one literal costs half of this whole proof. -/
theorem anteStepM_ok {mode : Mode} {tx : Tx} {s s' : State} {name : String} (h : anteStepM mode tx s name = .ok s') :
    (s' = s ∨ (name = "CheckLockedUnd" ∧ unlockDecorator s tx = .ok s') ∨ (name = "DeductFee" ∧ deductFee s tx = .ok s')) ∧
    (name = "CorrectWrkChainFee" → feeDecorator .wrk mode s tx = .ok s') ∧
    (name = "CorrectBeaconFee" → feeDecorator .bcn mode s tx = .ok s') ∧
    (name = "SetPubKey" → stepSetPubKey s tx = .ok s') ∧
    (name = "SigVerification" → stepSigVerificationR mode s tx = .ok s') := by
  unfold anteStepM at h
  split at h
  · rename_i f hf
    unfold anteStep at hf
    -- in each branch the name is a literal: the clauses about other names go, the one about this name loses its premise
    split at hf <;> cases hf <;>
      simp only [String.reduceEq, false_implies, forall_const, and_true, true_and, false_and, or_false, false_or]
    -- the nine decorators that the model passes through
    iterate 9 exact (Except.ok.inj h).symm
    · exact stepValidateBasicR_id h
    · exact ⟨feeDecorator_id h, h⟩
    · exact ⟨feeDecorator_id h, h⟩
    · exact .inr h
    · exact .inr h
    · exact ⟨stepSetPubKey_id h, h⟩
    · exact ⟨stepSigVerificationR_id h, h⟩
  · cases h

theorem anteStepM_effect {mode : Mode} {tx : Tx} {s s' : State} {name : String}
    (h : anteStepM mode tx s name = .ok s') : AnteEffect s tx s' := by
  rcases (anteStepM_ok h).1 with h | ⟨_, h⟩ | ⟨_, h⟩
  · exact .none h
  · exact unlockDecorator_effect h
  · exact deductFee_effect h

theorem ante_rel (R : State → State → Prop) (hrefl : ∀ s, R s s) (htrans : ∀ a b c, R a b → R b c → R a c)
    {tx : Tx} (heff : ∀ s s', AnteEffect s tx s' → R s s')
    {order : List String} {mode : Mode} {s s' : State} (h : ante order mode s tx = .ok s') : R s s' := by
  unfold ante at h
  exact foldlM_rel R hrefl htrans (anteStepM mode tx) order (fun a _ b _ hb => heff a b (anteStepM_effect hb)) s s' h

theorem ante_split {pre : List String} {name : String} {post : List String} {mode : Mode} {tx : Tx} {s s' : State}
    (h : ante (pre ++ name :: post) mode s tx = .ok s') :
    ∃ a b, ante pre mode s tx = .ok a ∧ anteStepM mode tx a name = .ok b ∧ ante post mode b tx = .ok s' := by
  simp only [ante, List.foldlM_append, List.foldlM_cons, bind_eq_ok] at h ⊢
  obtain ⟨a, h1, b, h2, h3⟩ := h
  exact ⟨a, b, h1, h2, h3⟩

theorem ante_mem (name : String) {order : List String} {mode : Mode} {tx : Tx} {s s' : State} (hm : name ∈ order)
    (h : ante order mode s tx = .ok s') : ∃ a b, anteStepM mode tx a name = .ok b := by
  obtain ⟨pre, post, rfl⟩ := List.append_of_mem hm
  obtain ⟨a, b, _, h2, _⟩ := ante_split h
  exact ⟨a, b, h2⟩

theorem ante_runs_on_input (pre post : List String) (name : String) {mode : Mode} {tx : Tx} {s s' : State} (hm : name ∈ pre)
    (h1 : "CheckLockedUnd" ∉ pre) (h2 : "DeductFee" ∉ pre) (h : ante (pre ++ post) mode s tx = .ok s') :
    ∃ b, anteStepM mode tx s name = .ok b := by
  obtain ⟨p1, p2, rfl⟩ := List.append_of_mem hm
  rw [List.append_assoc] at h
  obtain ⟨a, b, hp, hb, _⟩ := ante_split h
  have : a = s := foldlM_rel (fun x y => y = x) (fun _ => rfl) (fun _ _ _ h1 h2 => h2.trans h1) _ p1
    (fun x n y hn hy => by
      rcases (anteStepM_ok hy).1 with h | ⟨rfl, _⟩ | ⟨rfl, _⟩
      · exact h
      · exact absurd (List.mem_append_left _ hn) h1
      · exact absurd (List.mem_append_left _ hn) h2) s a hp
  exact ⟨b, this ▸ hb⟩

theorem ante_setPubKey {mode : Mode} {s s' : State} {tx : Tx} (h : ante Facts.anteOrder mode s tx = .ok s') :
    tx.signers = tx.required ∧ tx.required.all isUserAddr = true := by
  obtain ⟨a, b, h1⟩ := ante_mem "SetPubKey" (by simp [Facts.anteOrder]) h
  have h1 := (anteStepM_ok h1).2.2.2.1 rfl
  simp only [stepSetPubKey, bind_eq_ok, require_eq_ok, decide_eq_true_eq] at h1
  obtain ⟨_, hs, _, hu, _⟩ := h1
  exact ⟨hs, hu⟩

/-- one relation for the working state and the check state of a node: each of the two moves by some of these steps -/
inductive ChainStep (s s' : State) : Prop where
  | begin (t : Int) (ht : s.time ≤ t) (h : beginBlock Facts.beginBlockSteps { s with time := t } = .ok s')
  | deliver (wall : Nat) (tx : Tx) (hs : s' = (deliverTx Facts.anteOrder wall s tx).1)
  | check (tx : Tx) (hs : s' = (checkTx Facts.anteOrder s tx).1)
  | recheck (tx : Tx) (hs : s' = (recheckTx Facts.anteOrder s tx).1)
  | gov (wall : Nat) (m : Msg) (hs : s' = (govExec wall s m).1)
  | govAll (wall : Nat) (msgs : List Msg) (hs : s' = (govExecAll wall s msgs).1)

inductive Reachable (g : GenCfg) : State → Prop where
  | init : Reachable g (initState g)
  | step (s s' : State) (hr : Reachable g s) (hs : ChainStep s s') : Reachable g s'

theorem inv_reachable (g : GenCfg) (Inv : State → Prop) (hinit : Inv (initState g))
    (hstep : ∀ s s', Inv s → ChainStep s s' → Inv s') : ∀ s, Reachable g s → Inv s := by
  intro s hr
  induction hr with
  | init => exact hinit
  | step s s' _ hs ih => exact hstep s s' ih hs

/-- reachability through states that all satisfy a *history assumption* `P` (e.g. "no 64-bit counter
has reached 2^64 − 1 yet", "amounts stay below 2^255"); the property theorems carry theirs in `FineReach g Q` (Lemmas/Fine) instead -/
inductive ReachableP (g : GenCfg) (P : State → Prop) : State → Prop where
  | init (h : P (initState g)) : ReachableP g P (initState g)
  | step (s s' : State) (hr : ReachableP g P s) (hs : ChainStep s s') (hp : P s') : ReachableP g P s'

theorem ReachableP.holds {g : GenCfg} {P : State → Prop} {s : State} (h : ReachableP g P s) : P s := by
  cases h with
  | init h => exact h
  | step _ _ _ _ hp => exact hp

theorem invP_reachable (g : GenCfg) (P Inv : State → Prop) (hinit : P (initState g) → Inv (initState g))
    (hstep : ∀ s s', P s → P s' → Inv s → ChainStep s s' → Inv s') : ∀ s, ReachableP g P s → Inv s := by
  intro s hr
  induction hr with
  | init h => exact hinit h
  | step s s' hr hs hp ih => exact hstep s s' hr.holds hp ih hs

end Mainchain
