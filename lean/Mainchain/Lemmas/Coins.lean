import Mainchain.Model.Types
/- A valid `sdk.Coins` value is strictly sorted by denomination, so `AmountOf` is the sum over a denomination. -/
namespace Mainchain

def coinsSum (cs : Coins) (d' : String) : Int := (cs.map (fun c => if c.denom = d' then c.amt else 0)).sum

theorem coinsSum_cons (c : Coin) (cs : Coins) (d : String) :
    coinsSum (c :: cs) d = (if c.denom = d then c.amt else 0) + coinsSum cs d := rfl

theorem coinsSum_nonneg (cs : Coins) (hpos : ∀ c ∈ cs, 0 < c.amt) (d : String) : 0 ≤ coinsSum cs d := by
  induction cs with
  | nil => simp [coinsSum]
  | cons c cs ih =>
    have := ih (fun x hx => hpos x (by simp [hx]))
    have hc := hpos c (by simp)
    rw [coinsSum_cons]; split <;> omega

theorem coinsSum_single (c : Coin) (d : String) : coinsSum [c] d = if c.denom = d then c.amt else 0 :=
  Int.add_zero _

theorem ofCoin_pos (c : Coin) (h : 0 < c.amt) : Coins.ofCoin c = [c] := by
  unfold Coins.ofCoin; rw [if_neg (by omega)]

theorem coinsSum_ofCoin (c : Coin) (d : String) : coinsSum (Coins.ofCoin c) d = if c.denom = d then c.amt else 0 := by
  unfold Coins.ofCoin; split
  · rename_i h0; rw [h0, ite_self]; rfl
  · exact coinsSum_single c d

theorem allPos_of_valid : ∀ (cs : Coins), Coins.isValid cs = true → ∀ c ∈ cs, 0 < c.amt
  | [], _ => by intro c hc; simp at hc
  | [x], h => by
    intro c hc; simp only [List.mem_singleton] at hc; subst hc
    simp only [Coins.isValid, Bool.and_eq_true, decide_eq_true_eq] at h; exact h.1
  | x :: y :: rest, h => by
    intro c hc
    simp only [Coins.isValid, Bool.and_eq_true, decide_eq_true_eq] at h
    rcases List.mem_cons.mp hc with he | hc'
    · subst he; exact h.1.1.1
    · exact allPos_of_valid (y :: rest) h.2 c hc'

theorem denom_nonempty {d : String} (h : validDenom d = true) : d.isEmpty = false := by
  cases he : d.isEmpty with
  | false => rfl
  | true => rw [String.isEmpty_iff.mp he] at h; cases h

theorem isValid_single {c : Coin} (hpos : 0 < c.amt) (hden : c.denom.isEmpty = false) : Coins.isValid [c] = true := by
  simp [Coins.isValid, hpos, hden]

theorem valid_sorted : ∀ (cs : Coins), Coins.isValid cs = true → cs.Pairwise (fun a b => a.denom < b.denom)
  | [], _ => List.Pairwise.nil
  | [c], _ => by simp
  | c :: d :: rest, h => by
    simp only [Coins.isValid, Bool.and_eq_true, decide_eq_true_eq] at h
    obtain ⟨⟨⟨_, _⟩, hlt⟩, hrest⟩ := h
    have ih := valid_sorted (d :: rest) hrest
    refine List.pairwise_cons.mpr ⟨?_, ih⟩
    intro x hx
    rcases List.mem_cons.mp hx with he | hm
    · subst he; exact hlt
    · exact String.lt_trans hlt ((List.pairwise_cons.mp ih).1 x hm)

theorem amountOf_cons (c : Coin) (cs : Coins) (d : String) :
    Coins.amountOf (c :: cs) d = if c.denom = d then c.amt else Coins.amountOf cs d := by
  simp only [Coins.amountOf, List.find?_cons]
  by_cases h : c.denom = d <;> simp [h]

theorem coinsSum_zero_of_no_denom (cs : Coins) (d : String) (h : ∀ c ∈ cs, c.denom ≠ d) : coinsSum cs d = 0 := by
  induction cs with
  | nil => rfl
  | cons c cs ih =>
    rw [coinsSum_cons, if_neg (h c List.mem_cons_self), ih (fun x hx => h x (List.mem_cons_of_mem _ hx))]
    rfl

theorem amountOf_eq_coinsSum (cs : Coins) (hv : Coins.isValid cs = true) (d : String) :
    Coins.amountOf cs d = coinsSum cs d := by
  have hs := valid_sorted cs hv
  clear hv
  induction cs with
  | nil => rfl
  | cons c cs ih =>
    have hp := List.pairwise_cons.mp hs
    rw [amountOf_cons, coinsSum_cons]
    split
    · rename_i hc
      -- the denominations after `c` are larger than `d`
      rw [coinsSum_zero_of_no_denom cs d (fun x hx he => String.lt_irrefl _ (he ▸ hc ▸ hp.1 x hx)), Int.add_zero]
    · rw [ih hp.2, Int.zero_add]

theorem amountOf_pos_of_valid (cs : Coins) (hv : Coins.isValid cs = true) (d : String) (h : cs.any (·.denom = d) = true) :
    0 < Coins.amountOf cs d := by
  have hpos := allPos_of_valid cs hv
  clear hv
  induction cs with
  | nil => cases h
  | cons c cs ih =>
    rw [amountOf_cons]
    split
    · exact hpos c List.mem_cons_self
    · rename_i hc
      simp only [List.any_cons, hc, decide_false, Bool.false_or] at h
      exact ih h (fun x hx => hpos x (List.mem_cons_of_mem _ hx))

theorem safeSub_single (a b : Coin) (hd : a.denom = b.denom) (hb : 0 < b.amt) :
    (Coins.safeSub (Coins.ofCoin a) [b]).2 = decide (a.amt < b.amt) := by
  unfold Coins.safeSub Coins.ofCoin Coins.add Coins.neg
  by_cases h0 : a.amt = 0
  · have : ¬ (b.amt = 0) := by omega
    simp [h0, Coins.insertSorted, this]
  · simp only [h0, if_false, List.map_cons, List.map_nil, List.foldl_cons, List.foldl_nil, Coins.insertSorted]
    simp only [hd.symm, if_true]
    by_cases hz : a.amt + -b.amt = 0
    · simp [hz]; omega
    · simp [hz]; omega

end Mainchain
