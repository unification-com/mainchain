import Mainchain.Model.Convert
/-
`digits` is used through its recursion `digits_eq` and the induction `digits_induction`, not through the fuel of `digitsAux`.
-/
namespace Mainchain
namespace Convert

theorem foldl_digits (ds : List Nat) (a : Nat) :
    ds.foldl (fun acc d => acc * 10 + d) a = a * 10 ^ ds.length + ofDigits ds := by
  induction ds generalizing a with
  | nil => simp [ofDigits]
  | cons d ds ih =>
    simp only [List.foldl_cons, List.length_cons, ofDigits]
    rw [ih (a * 10 + d), ih (0 * 10 + d)]
    simp only [Nat.pow_succ, Nat.zero_mul, Nat.zero_add]
    rw [Nat.add_mul, Nat.mul_assoc, Nat.mul_comm 10 (10 ^ ds.length)]
    omega

theorem ofDigits_append (a b : List Nat) : ofDigits (a ++ b) = ofDigits a * 10 ^ b.length + ofDigits b := by
  simp only [ofDigits, List.foldl_append]
  rw [foldl_digits]; rfl

theorem ofDigits_replicate_zero (k : Nat) : ofDigits (List.replicate k 0) = 0 := by
  induction k with
  | zero => rfl
  | succ k ih => rw [List.replicate_succ', ofDigits_append, ih]; rfl

theorem digitsAux_eq : ∀ (n fuel : Nat) (acc : List Nat), n < fuel → digitsAux fuel n acc = digits n ++ acc := by
  intro n
  induction n using Nat.strongRecOn with
  | _ n ih =>
    intro fuel acc hf
    cases fuel with
    | zero => cases hf
    | succ f =>
      show digitsAux (f + 1) n acc = digitsAux (n + 1) n [] ++ acc
      simp only [digitsAux]
      split
      · rfl
      · have hlt : n / 10 < n := Nat.div_lt_self (by omega) (by decide)
        rw [ih _ hlt f _ (Nat.lt_of_lt_of_le hlt (Nat.le_of_lt_succ hf)), ih _ hlt n _ hlt, List.append_assoc,
          List.singleton_append]

theorem digits_eq (n : Nat) : digits n = if n < 10 then [n] else digits (n / 10) ++ [n % 10] := by
  show digitsAux (n + 1) n [] = _
  simp only [digitsAux]
  split
  · rfl
  · exact digitsAux_eq (n / 10) n _ (by omega)

theorem digits_induction (P : Nat → List Nat → Prop) (h1 : ∀ n, n < 10 → P n [n])
    (h2 : ∀ n, 10 ≤ n → P (n / 10) (digits (n / 10)) → P n (digits (n / 10) ++ [n % 10])) : ∀ n, P n (digits n) := by
  intro n
  induction n using Nat.strongRecOn with
  | _ n ih =>
    rw [digits_eq]
    split
    · exact h1 n ‹_›
    · exact h2 n (by omega) (ih (n / 10) (by omega))

theorem ofDigits_digits (n : Nat) : ofDigits (digits n) = n :=
  digits_induction (fun n ds => ofDigits ds = n) (fun n _ => by simp [ofDigits])
    (fun n _ ih => by
      rw [ofDigits_append, ih]
      show n / 10 * 10 + (0 * 10 + n % 10) = n
      omega) n

theorem digits_lt10 (n : Nat) : ∀ d ∈ digits n, d < 10 :=
  digits_induction (fun _ ds => ∀ d ∈ ds, d < 10) (fun n h d hd => by rw [List.mem_singleton.mp hd]; exact h)
    (fun n _ ih d hd => by
      rcases List.mem_append.mp hd with hd | hd
      · exact ih d hd
      · rw [List.mem_singleton.mp hd]; omega) n

theorem digits_ne_nil (n : Nat) : digits n ≠ [] :=
  digits_induction (fun _ ds => ds ≠ []) (fun _ _ => List.cons_ne_nil _ _) (fun _ _ _ => List.append_ne_nil_of_right_ne_nil _ (List.cons_ne_nil _ _)) n

theorem digits_length_le (w n : Nat) (hw : 0 < w) (h : n < 10 ^ w) : (digits n).length ≤ w := by
  obtain ⟨w, rfl⟩ : ∃ v, w = v + 1 := ⟨w - 1, (Nat.sub_add_cancel hw).symm⟩
  clear hw
  induction w generalizing n with
  | zero => rw [digits_eq, if_pos h]; exact Nat.le_refl 1
  | succ w ih =>
    rw [digits_eq]
    split
    · exact Nat.succ_le_succ (Nat.zero_le _)
    · rw [List.length_append]
      exact Nat.succ_le_succ (ih (n / 10) (Nat.div_lt_of_lt_mul (by rwa [Nat.mul_comm, ← Nat.pow_succ])))

theorem padLeft_spec (w : Nat) (ds : List Nat) (hl : ds.length ≤ w) (hd : ∀ d ∈ ds, d < 10) :
    (padLeft w ds).length = w ∧ ofDigits (padLeft w ds) = ofDigits ds ∧ ∀ d ∈ padLeft w ds, d < 10 := by
  refine ⟨?_, ?_, fun d h => ?_⟩
  · rw [padLeft, List.length_append, List.length_replicate, Nat.sub_add_cancel hl]
  · rw [padLeft, ofDigits_append, ofDigits_replicate_zero, Nat.zero_mul, Nat.zero_add]
  · rcases List.mem_append.mp h with h | h
    · rw [(List.mem_replicate.mp h).2]; exact Nat.zero_lt_succ 9
    · exact hd d h

theorem charDigit_digitChar : ∀ d, d < 10 → (digitChar d).isDigit = true ∧ charDigit? (digitChar d) = some d := by
  decide

theorem mapM_charDigit (ds : List Nat) (h : ∀ d ∈ ds, d < 10) : (ds.map digitChar).mapM charDigit? = some ds := by
  induction ds with
  | nil => rfl
  | cons d ds ih =>
    have h1 := (charDigit_digitChar d (h d List.mem_cons_self)).2
    have h2 := ih (fun x hx => h x (List.mem_cons_of_mem _ hx))
    simp [List.mapM_cons, h1, h2]

theorem span_digits (ds : List Nat) (h : ∀ d ∈ ds, d < 10) (r : List Char) (hr : ∀ c ∈ r.head?, c.isDigit = false) :
    (ds.map digitChar ++ r).takeWhile Char.isDigit = ds.map digitChar ∧ (ds.map digitChar ++ r).dropWhile Char.isDigit = r := by
  induction ds with
  | nil => cases r with
    | nil => exact ⟨rfl, rfl⟩
    | cons c r => simp [hr c rfl]
  | cons d ds ih =>
    have := ih (fun x hx => h x (List.mem_cons_of_mem _ hx))
    simp [(charDigit_digitChar d (h d List.mem_cons_self)).1, this.1, this.2]

theorem parseDecimal_print (ip fp : List Nat) (hi : ∀ d ∈ ip, d < 10) (hf : ∀ d ∈ fp, d < 10) (hne : ip ≠ []) :
    parseDecimal (String.ofList (ip.map digitChar)) = some (ofDigits ip, 0) ∧
    (fp ≠ [] → parseDecimal (String.ofList (ip.map digitChar) ++ "." ++ String.ofList (fp.map digitChar)) =
      some (ofDigits (ip ++ fp), fp.length)) := by
  have hne' : (ip.map digitChar).isEmpty = false := by cases ip with
    | nil => exact absurd rfl hne
    | cons a b => rfl
  constructor
  · have hs := span_digits ip hi [] (fun _ h => by cases h)
    rw [List.append_nil] at hs
    simp only [parseDecimal, String.toList_ofList, hs.1, hs.2, hne', Bool.false_eq_true, if_false, mapM_charDigit ip hi,
      Option.map_some]
  · intro hfne
    have hs := span_digits ip hi ('.' :: fp.map digitChar) (fun c h => by cases h; decide)
    have hfne' : (fp.map digitChar).isEmpty = false := by cases fp with
      | nil => exact absurd rfl hfne
      | cons a b => rfl
    have hall : (fp.map digitChar).all Char.isDigit = true := by
      simp only [List.all_map, List.all_eq_true]
      exact fun d hd => (charDigit_digitChar d (hf d hd)).1
    have hcat := mapM_charDigit (ip ++ fp) (fun d hd => (List.mem_append.mp hd).elim (hi d) (hf d))
    rw [List.map_append] at hcat
    simp only [parseDecimal, String.toList_append, String.toList_ofList, show ".".toList = ['.'] from rfl, List.append_assoc,
      List.singleton_append, hs.1, hs.2, hne', Bool.false_eq_true, if_false, hfne', hall, Bool.not_true, Bool.or_false, hcat,
      Option.map_some, List.length_map]

theorem parseDecimal_fixed (a b w : Nat) (hw : 0 < w) (hb : b < 10 ^ w) :
    parseDecimal (showNat a ++ "." ++ String.ofList ((padLeft w (digits b)).map digitChar)) = some (a * 10 ^ w + b, w) := by
  obtain ⟨hl, hv, hlt⟩ := padLeft_spec w (digits b) (digits_length_le w b hw hb) (digits_lt10 b)
  rw [showNat, (parseDecimal_print _ _ (digits_lt10 a) hlt (digits_ne_nil a)).2 (fun h => by rw [h] at hl; exact absurd hl.symm (Nat.ne_of_gt hw)),
    ofDigits_append, hl, hv, ofDigits_digits, ofDigits_digits]

end Convert
end Mainchain
