import Mainchain.Lemmas.EntLife
/-
The enterprise BeginBlocker as a whole: what the tally and the completion pass do to every order.
-/
namespace Mainchain
open AL

def tallyRec (p : EntParams) (now : Nat) (po : PO) : PO :=
  match EntState.tallyDecision p now po with
  | none => po
  | some st => { po with status := st, completionTime := now }

theorem tallyOne_orders {e e' : EntState} {now id : Nat} (h : e.tallyOne now id = .ok e') :
    e'.params = e.params ∧ (∀ x, x ≠ id → find? e'.orders x = find? e.orders x) ∧
    ∃ po, find? e.orders id = some po ∧ find? e'.orders id = some (tallyRec e.params now po) := by
  obtain ⟨po, hf, _, ⟨hd, rfl⟩ | ⟨st, hd, rfl⟩⟩ := EntState.tallyOne_ok h
  · exact ⟨rfl, fun _ _ => rfl, po, hf, by rw [hf, tallyRec, hd]⟩
  · exact ⟨rfl, fun x hx => find_insert_ne _ _ _ _ (Ne.symm hx), po, hf, by rw [tallyRec, hd]; exact find_insert_eq ..⟩

theorem completeOne_orders {x x' : EB} {now : Int} {bl : Addr → Bool} {id : Nat} (h : EB.completeOne x now bl id = .ok x') :
    (∀ y, y ≠ id → find? x'.ent.orders y = find? x.ent.orders y) ∧
    ∃ po, find? x.ent.orders id = some po ∧ find? x'.ent.orders id = some { po with status := stCompleted } := by
  obtain ⟨po, a, hf, _, _, l, t, he⟩ := EB.completeOne_ent h
  rw [he]
  exact ⟨fun y hy => find_insert_ne _ _ _ _ (Ne.symm hy), po, hf, find_insert_eq ..⟩

theorem queue_pass {σ : Type} (f : σ → Nat → M σ) (I : σ → Prop) (orders : σ → List (Nat × PO)) (st : Nat) (F : PO → PO)
    (hstep : ∀ s id s', I s → f s id = .ok s' → I s' ∧ (∀ y, y ≠ id → find? (orders s') y = find? (orders s) y) ∧
      ∃ po, find? (orders s) id = some po ∧ find? (orders s') id = some (F po))
    (s s' : σ) (q : List Nat) (hq : QueueOf st (orders s) q) (hI : I s) (h : q.foldlM f s = .ok s') :
    ∀ id po, find? (orders s) id = some po → find? (orders s') id = some (if po.status = st then F po else po) := by
  obtain ⟨_, ho, hr⟩ := foldlM_keyed f I (fun s y => find? (orders s) y)
    (fun _ old new => ∃ po, old = some po ∧ new = some (F po)) hstep q s s' (asc_nodup _ hq.asc) hI h
  intro id po hf
  split
  · rename_i hst
    obtain ⟨p, hp, hp'⟩ := hr id ((hq.mem_iff hf).mpr hst)
    rw [hf] at hp; cases hp; exact hp'
  · rename_i hst
    rw [ho id (fun hm => hst ((hq.mem_iff hf).mp hm))]; exact hf

theorem tally_spec {e e' : EntState} {now : Nat} (hi : BookInv e) (h : e.tally now = .ok e') :
    ∀ id po, find? e.orders id = some po →
      find? e'.orders id = some (if po.status = stRaised then tallyRec e.params now po else po) :=
  queue_pass (fun (a : EntState) id => a.tallyOne now id) (fun a => a.params = e.params) EntState.orders stRaised (tallyRec e.params now)
    (fun a id a' hp ha => by
      obtain ⟨p1, o1, po, hf, hf'⟩ := tallyOne_orders ha
      exact ⟨p1.trans hp, o1, po, hf, hp ▸ hf'⟩) e e' e.raisedQ hi.raised rfl h

theorem process_spec {x x' : EB} {now : Int} {bl : Addr → Bool} (hi : BookInv x.ent)
    (h : EB.processAccepted x now bl = .ok x') :
    ∀ id po, find? x.ent.orders id = some po →
      find? x'.ent.orders id = some (if po.status = stAccepted then { po with status := stCompleted } else po) :=
  queue_pass (fun (a : EB) id => a.completeOne now bl id) (fun _ => True) (fun a => a.ent.orders) stAccepted
    (fun po => { po with status := stCompleted })
    (fun _ _ _ _ ha => ⟨trivial, completeOne_orders ha⟩) x x' x.ent.acceptedQ hi.accepted trivial h

theorem processAccepted_bookInv {x x' : EB} {now : Int} {bl : Addr → Bool} (hi : BookInv x.ent)
    (h : EB.processAccepted x now bl = .ok x') : BookInv x'.ent ∧ x'.ent.params = x.ent.params :=
  foldlM_preserves (fun (y : EB) => BookInv y.ent ∧ y.ent.params = x.ent.params)
    (fun (y : EB) (id : Nat) => EB.completeOne y now bl id) x.ent.acceptedQ
    (fun _ _ _ ha hb => ⟨completeOne_bookInv ha.1 hb, (completeOne_frame hb).1.trans ha.2⟩)
    x x' ⟨hi, rfl⟩ h

theorem beginBlock_eq (s : State) : beginBlock Facts.beginBlockSteps s =
    (do let x ← EB.processAccepted { ent := s.ent, bank := s.bank } s.nowSec isBlocked
        let e ← x.ent.tally s.nowSecU
        pure { s with ent := e, bank := x.bank }) := by
  simp only [Facts.beginBlockSteps, beginBlock, List.foldlM_cons, List.foldlM_nil, beginStep, bind_assoc, pure_bind]
  rfl

theorem beginBlock_orders {s s' : State} (hi : BookInv s.ent) (h : beginBlock Facts.beginBlockSteps s = .ok s') :
    ∀ id po, find? s.ent.orders id = some po →
      find? s'.ent.orders id = some
        (if po.status = stAccepted then { po with status := stCompleted }
         else if po.status = stRaised then tallyRec s.ent.params s.nowSecU po else po) := by
  simp only [beginBlock_eq, bind_eq_ok, pure_eq_ok] at h
  obtain ⟨x, hx, e, he, rfl⟩ := h
  obtain ⟨hi1, hp1⟩ := processAccepted_bookInv hi hx
  intro id po hf
  rw [tally_spec hi1 he id _ (process_spec hi hx id po hf)]
  by_cases ha : po.status = stAccepted
  · rw [if_pos ha, if_pos ha]
    exact congrArg some (if_neg (by decide : stCompleted ≠ stRaised))
  · rw [if_neg ha, if_neg ha, hp1]

end Mainchain
