import Mainchain.Lemmas.EntOrders
import Mainchain.Lemmas.StreamReach
/- The eFUND books of x/enterprise: escrow balance = total locked = Σ locked, total spent = Σ spent, and per account
locked + spent = Σ of its completed orders. -/
namespace Mainchain
open AL Bank

def completedOf (a : Addr) (po : PO) : Int :=
  if po.status = stCompleted ∧ po.purchaser.decode = some a then po.amt else 0

def completedSum (e : EntState) (a : Addr) : Int := sumF (completedOf a) e.orders

/-- `c.amt` under a name, so that every statement about the coin books writes its sum and its entries the same way (`sumF coinAmt`,
`fOpt coinAmt`) and the `AList` lemmas rewrite between them; `foldr_map_eq_sumF coinAmt` is the bridge to the fold in
`Genesis.entInvariantOk`. -/
def coinAmt (c : Coin) : Int := c.amt

structure BooksInv (D : String) (s : State) : Prop where
  nodupL : NoDupKeys s.ent.locked
  nodupS : NoDupKeys s.ent.spent
  okL : ∀ a c, find? s.ent.locked a = some c → c.denom = D ∧ 0 ≤ c.amt
  okS : ∀ a c, find? s.ent.spent a = some c → c.denom = D ∧ 0 ≤ c.amt
  totL : s.ent.totalLocked.denom = D
  totS : s.ent.totalSpent.denom = D
  escrow : ∀ d, (s.bank.balOf Ment d : Int) = if d = D then s.ent.totalLocked.amt else 0
  sumL : sumF coinAmt s.ent.locked = s.ent.totalLocked.amt
  sumS : sumF coinAmt s.ent.spent = s.ent.totalSpent.amt
  perAcct : ∀ a, (s.ent.lockedOf a).amt + (s.ent.spentOf a).amt = completedSum s.ent a

theorem completedOf_of_ne {a : Addr} {po : PO} (h : po.status ≠ stCompleted) : completedOf a po = 0 :=
  if_neg fun c => h c.1

theorem lockedOf_amt (e : EntState) (a : Addr) : (e.lockedOf a).amt = fOpt coinAmt (find? e.locked a) := by
  unfold EntState.lockedOf; cases find? e.locked a <;> rfl

theorem spentOf_amt (e : EntState) (a : Addr) : (e.spentOf a).amt = fOpt coinAmt (find? e.spent a) := by
  unfold EntState.spentOf; cases find? e.spent a <;> rfl

theorem lockedOf_insert {e e' : EntState} {a : Addr} {c : Coin} {v : Int} (h : e'.locked = insert e.locked a c) (hv : c.amt = v)
    (b : Addr) : (e'.lockedOf b).amt = if a = b then v else (e.lockedOf b).amt := by
  rw [lockedOf_amt, lockedOf_amt, h, find_insert, ← hv]; split <;> rfl

theorem spentOf_insert {e e' : EntState} {a : Addr} {c : Coin} {v : Int} (h : e'.spent = insert e.spent a c) (hv : c.amt = v)
    (b : Addr) : (e'.spentOf b).amt = if a = b then v else (e.spentOf b).amt := by
  rw [spentOf_amt, spentOf_amt, h, find_insert, ← hv]; split <;> rfl

structure CoinBook (D : String) (m : List (Addr × Coin)) (tot : Coin) : Prop where
  nodup : NoDupKeys m
  ok : ∀ a c, find? m a = some c → c.denom = D ∧ 0 ≤ c.amt
  totD : tot.denom = D
  sum : sumF coinAmt m = tot.amt

namespace CoinBook
variable {D : String} {m : List (Addr × Coin)} {tot : Coin}

theorem nonneg (h : CoinBook D m tot) (a : Addr) : 0 ≤ fOpt coinAmt (find? m a) := by
  cases hf : find? m a with
  | none => exact Int.le_refl 0
  | some c => exact (h.ok a c hf).2

theorem le_total (h : CoinBook D m tot) (a : Addr) : fOpt coinAmt (find? m a) ≤ tot.amt :=
  h.sum ▸ fOpt_le_sumF coinAmt m (fun k c hk => (h.ok k c hk).2) h.nodup a

theorem denom_getD (h : CoinBook D m tot) (a : Addr) : ((find? m a).getD { denom := D, amt := 0 }).denom = D := by
  cases hf : find? m a with
  | none => rfl
  | some c => exact (h.ok a c hf).1

theorem adjust (h : CoinBook D m tot) (a : Addr) (k : Int) {c t : Coin} (hc : c.denom = D) (ht : t.denom = D)
    (hck : c.amt = fOpt coinAmt (find? m a) + k) (h0 : 0 ≤ c.amt) (htk : t.amt = tot.amt + k) :
    CoinBook D (insert m a c) t := by
  refine ⟨nodup_insert _ _ _ h.nodup, forall_find_insert m a c ⟨hc, h0⟩ fun b c' _ => h.ok b c', ht, ?_⟩
  rw [sumF_insert, h.sum, htk]; show _ - _ + c.amt = _; omega

end CoinBook

namespace BooksInv
variable {D : String} {s s' : State}

theorem lockedBook (hi : BooksInv D s) : CoinBook D s.ent.locked s.ent.totalLocked := ⟨hi.nodupL, hi.okL, hi.totL, hi.sumL⟩

theorem spentBook (hi : BooksInv D s) : CoinBook D s.ent.spent s.ent.totalSpent := ⟨hi.nodupS, hi.okS, hi.totS, hi.sumS⟩

theorem of_books (hL : CoinBook D s.ent.locked s.ent.totalLocked) (hS : CoinBook D s.ent.spent s.ent.totalSpent)
    (hb : ∀ d, (s.bank.balOf Ment d : Int) = if d = D then s.ent.totalLocked.amt else 0)
    (hp : ∀ a, (s.ent.lockedOf a).amt + (s.ent.spentOf a).amt = completedSum s.ent a) : BooksInv D s :=
  ⟨hL.nodup, hS.nodup, hL.ok, hS.ok, hL.totD, hS.totD, hb, hL.sum, hS.sum, hp⟩

theorem lockedOf_denom (hi : BooksInv D s) (hpd : s.ent.params.denom = D) (a : Addr) : (s.ent.lockedOf a).denom = D := by
  unfold EntState.lockedOf; rw [hpd]; exact hi.lockedBook.denom_getD a

theorem spentOf_denom (hi : BooksInv D s) (hpd : s.ent.params.denom = D) (a : Addr) : (s.ent.spentOf a).denom = D := by
  unfold EntState.spentOf; rw [hpd]; exact hi.spentBook.denom_getD a

theorem of_eq (hi : BooksInv D s)
    (hl : s'.ent.locked = s.ent.locked) (hs : s'.ent.spent = s.ent.spent) (htl : s'.ent.totalLocked = s.ent.totalLocked)
    (hts : s'.ent.totalSpent = s.ent.totalSpent) (hb : ∀ d, s'.bank.balOf Ment d = s.bank.balOf Ment d)
    (hc : ∀ a, completedSum s'.ent a = completedSum s.ent a) : BooksInv D s' :=
  of_books (hl ▸ htl ▸ hi.lockedBook) (hs ▸ hts ▸ hi.spentBook) (fun d => by rw [hb d, htl]; exact hi.escrow d)
    (fun a => by rw [lockedOf_amt, spentOf_amt, hl, hs, hc, ← lockedOf_amt, ← spentOf_amt]; exact hi.perAcct a)

theorem shift (hi : BooksInv D s) (a : Addr) (dl ds : Int)
    (hL : CoinBook D s'.ent.locked s'.ent.totalLocked) (hS : CoinBook D s'.ent.spent s'.ent.totalSpent)
    (htl : s'.ent.totalLocked.amt = s.ent.totalLocked.amt + dl)
    (hlo : ∀ b, (s'.ent.lockedOf b).amt = if a = b then (s.ent.lockedOf a).amt + dl else (s.ent.lockedOf b).amt)
    (hso : ∀ b, (s'.ent.spentOf b).amt = if a = b then (s.ent.spentOf a).amt + ds else (s.ent.spentOf b).amt)
    (hb : ∀ d, (s'.bank.balOf Ment d : Int) = s.bank.balOf Ment d + if d = D then dl else 0)
    (hc : ∀ b, completedSum s'.ent b = completedSum s.ent b + if a = b then dl + ds else 0) : BooksInv D s' := by
  refine of_books hL hS (fun d => ?_) (fun b => ?_)
  · rw [hb d, hi.escrow d, htl]; split <;> omega
  · rw [hlo b, hso b, hc b, ← hi.perAcct b]
    split
    · rename_i h; subst h; omega
    · omega

end BooksInv

/-- what a fee unlock that moved `k` has done -/
structure Unlocked (D : String) (s : State) (x : EB) (payer : Addr) (k : Int) : Prop where
  inv : BooksInv D { s with ent := x.ent, bank := x.bank }
  locked : (x.ent.lockedOf payer).amt = (s.ent.lockedOf payer).amt - k
  spent : (x.ent.spentOf payer).amt = (s.ent.spentOf payer).amt + k
  others : ∀ b, b ≠ payer → find? x.ent.locked b = find? s.ent.locked b ∧ find? x.ent.spent b = find? s.ent.spent b
  escrow : ∀ d, (x.bank.balOf Ment d : Int) = s.bank.balOf Ment d - if d = D then k else 0
  supply : x.bank.supply = s.bank.supply

theorem books_after_unlock {D : String} {s : State} {x x1 : EB} {payer : Addr} {k : Coin} {amt : Coins} {bank : Bank}
    (hi : BooksInv D s) (hpd : s.ent.params.denom = D) (hstr : StreamInv (toSB s)) (hpayer : payer ≠ Ment)
    (hund : s.bank.undelegate s.nowSec Ment payer amt = .ok bank)
    (h1 : EB.decrementLocked { ent := s.ent, bank := bank } payer k = .ok x1) (h2 : EB.incrementSpent x1 payer k = .ok x)
    (hkd : k.denom = D) (hk : 0 < k.amt) (hle : k.amt ≤ (s.ent.lockedOf payer).amt) (hamt : coinsSum amt D = k.amt) :
    Unlocked D s x payer k.amt := by
  obtain ⟨l, t, rfl, hl, ht⟩ := EB.lockedToSpent_eq h1 h2
  dsimp only at hl ht ⊢
  obtain ⟨_, hsup, _, eb, _⟩ := undelegate_spec (b := s.bank) hstr.bank
    (locked_nonvesting _ _ Ment (hstr.modNoVest Ment (by decide))) hund
  -- the escrow pays `amt`, whose `D`-part is `k`; it holds nothing in another denomination, so `amt` has no other part
  have hesc : ∀ d, (bank.balOf Ment d : Int) = s.bank.balOf Ment d - if d = D then k.amt else 0 := by
    intro d
    have hm := eb Ment d
    rw [if_pos rfl, if_neg hpayer] at hm
    by_cases hd : d = D
    · subst hd; rw [if_pos rfl, hm]; omega
    · have h0 := coinsSum_nonneg amt (allPos_of_valid amt (undelegate_valid hund)) d
      have he := hi.escrow d
      rw [if_neg hd] at he ⊢; omega
  have hld := hi.lockedOf_denom hpd payer
  have hL0 := hi.lockedBook.nonneg payer
  have hs0 := hi.spentBook.nonneg payer
  have htge := hi.lockedBook.le_total payer
  rw [← lockedOf_amt] at hL0 htge; rw [← spentOf_amt] at hs0
  -- neither branch of `decrementLockedUnd` saturates: `k ≤ locked payer ≤ total locked`
  obtain ⟨_, rfl⟩ := hl (by
    rw [ofCoin_pos k hk, safeSub_single _ _ (hld.trans hkd.symm) hk]; exact decide_eq_false (Int.not_lt.mpr hle))
  obtain ⟨_, rfl⟩ := ht (by
    rw [ofCoin_pos k hk, safeSub_single _ _ (hi.totL.trans hkd.symm) hk]
    exact decide_eq_false (Int.not_lt.mpr (Int.le_trans hle htge)))
  exact ⟨hi.shift payer (-k.amt) k.amt
      (hi.lockedBook.adjust payer (-k.amt) hld hi.totL (by rw [← lockedOf_amt]; rfl) (Int.sub_nonneg_of_le hle) rfl)
      (hi.spentBook.adjust payer k.amt (hi.spentOf_denom hpd payer) hi.totS (by rw [← spentOf_amt])
        (Int.add_nonneg hs0 (Int.le_of_lt hk)) rfl)
      rfl (lockedOf_insert rfl rfl) (spentOf_insert rfl rfl) (fun d => by rw [hesc d]; split <;> omega)
      (fun a => by rw [Int.add_left_neg, ite_self, Int.add_zero]; rfl),
    (lockedOf_insert rfl rfl payer).trans (if_pos rfl), (spentOf_insert rfl rfl payer).trans (if_pos rfl),
    fun b hb => ⟨find_insert_ne _ _ _ _ (Ne.symm hb), find_insert_ne _ _ _ _ (Ne.symm hb)⟩, hesc, hsup⟩

theorem unlockForFees_spec {D : String} {s : State} {x : EB} {payer : Addr} {fees : Coins}
    (hi : BooksInv D s) (hpd : s.ent.params.denom = D) (hstr : StreamInv (toSB s)) (hpayer : payer ≠ Ment)
    (hlk : s.ent.isLocked payer = true)
    (h : EB.unlockForFees { ent := s.ent, bank := s.bank } s.nowSec payer fees = .ok x) :
    x = { ent := s.ent, bank := s.bank } ∨
    ∃ k : Int, 0 < k ∧ k ≤ (s.ent.lockedOf payer).amt ∧ Unlocked D s x payer k ∧
      (Coins.isValid fees = true → k = min (Coins.amountOf fees D) (s.ent.lockedOf payer).amt) := by
  have hL0 : 0 < (s.ent.lockedOf payer).amt := of_decide_eq_true hlk
  have hld := hi.lockedOf_denom hpd payer
  obtain ⟨hany, rfl | ⟨k, amt, bank, x1, hund, h1, h2, hk⟩⟩ := EB.unlockForFees_ok h
  · exact Or.inl rfl
  right
  dsimp only at hany hund h1 h2 hk
  rw [hpd] at hany hk
  -- for a valid fee set `locked < fee` is what the first test of `UnlockCoinsForFees` computes
  have hneg : Coins.isValid fees = true → 0 < Coins.amountOf fees D ∧
      (Coins.safeSub (Coins.ofCoin (s.ent.lockedOf payer)) [{ denom := D, amt := Coins.amountOf fees D }]).2 =
        decide ((s.ent.lockedOf payer).amt < Coins.amountOf fees D) := fun hv =>
    have hF := amountOf_pos_of_valid fees hv D hany
    ⟨hF, safeSub_single _ { denom := D, amt := Coins.amountOf fees D } hld hF⟩
  rcases hk with ⟨hc, rfl, hamt⟩ | ⟨hc, rfl, hamt⟩ <;> rw [hamt] at hund
  · -- locked ≥ fee : the whole fee set is undelegated
    have hvalid := undelegate_valid hund
    obtain ⟨hF, hn⟩ := hneg hvalid
    have hle : Coins.amountOf fees D ≤ (s.ent.lockedOf payer).amt := Int.not_lt.mp (of_decide_eq_false (hn.symm.trans hc))
    exact ⟨Coins.amountOf fees D, hF, hle,
      books_after_unlock hi hpd hstr hpayer hund h1 h2 rfl hF hle (amountOf_eq_coinsSum fees hvalid D).symm,
      fun _ => (Int.min_eq_left hle).symm⟩
  · -- spendable + locked ≥ fee : everything that is locked is undelegated
    rw [ofCoin_pos _ hL0] at hund
    refine ⟨(s.ent.lockedOf payer).amt, hL0, Int.le_refl _,
      books_after_unlock hi hpd hstr hpayer hund h1 h2 hld hL0 (Int.le_refl _) ((coinsSum_single _ D).trans (if_pos hld)),
      fun hvalid => ?_⟩
    have hlt : (s.ent.lockedOf payer).amt < Coins.amountOf fees D := of_decide_eq_true ((hneg hvalid).2.symm.trans hc)
    exact (Int.min_eq_right (Int.le_of_lt hlt)).symm

/-- what the completion of the order `po` of purchaser `a` has done besides crediting the purchaser's locked eFUND
(`completeOne_credit`) -/
structure Completed (D : String) (s : State) (x : EB) (po : PO) (a : Addr) : Prop where
  inv : BooksInv D { s with ent := x.ent, bank := x.bank }
  denom : po.denom = D
  notEscrow : a ≠ Ment
  bal : ∀ a' d', (x.bank.balOf a' d' : Int) = s.bank.balOf a' d' + (if a' = Ment ∧ d' = D then po.amt else 0)
  supply : ∀ d', (x.bank.supplyOf d' : Int) = s.bank.supplyOf d' + (if d' = D then po.amt else 0)

theorem completeOne_spec {D : String} {s : State} {x : EB} {id : Nat} (hi : BooksInv D s) (hbook : BookInv s.ent)
    (hstr : StreamInv (toSB s))
    (h : EB.completeOne { ent := s.ent, bank := s.bank } s.nowSec isBlocked id = .ok x) :
    ∃ po a, find? s.ent.orders id = some po ∧ po.status = stAccepted ∧ po.purchaser.decode = some a ∧ Completed D s x po a := by
  obtain ⟨po, a, hf, hst, ha, h⟩ := EB.completeOne_ok h
  have hA := hbook.amtPos id po hf
  rcases h with ⟨h0, _⟩ | ⟨_, hbl, hd1, hd2, b1, b2, b3, h1, h2, h3, rfl⟩
  · exact absurd h0 (Int.ne_of_gt hA)
  dsimp only at hf hd1 hd2 h1 h2 h3 ⊢
  have haM : a ≠ Ment := ne_of_blocked hbl isBlocked_Ment
  have hcD : po.denom = D := hd2.symm.trans hi.totL
  obtain ⟨_, hbal, hsup, _⟩ := mintLock_bank (b := s.bank) hstr.bank (hstr.modNoVest Ment (by decide)) h1 h2 h3
  rw [hcD] at hbal hsup
  have hL0 := hi.lockedBook.nonneg a
  rw [← lockedOf_amt] at hL0
  refine ⟨po, a, hf, hst, ha, hi.shift a po.amt 0
    (hi.lockedBook.adjust a po.amt (hd1.trans hcD) hi.totL (by rw [← lockedOf_amt]) (by show 0 ≤ _ + _; omega) rfl)
    hi.spentBook rfl (lockedOf_insert rfl rfl) (fun b => ?_) (fun d => by rw [hbal Ment d]; simp) (fun b => ?_),
    hcD, haM, hbal, hsup⟩
  · split
    · next h => subst h; exact (Int.add_zero _).symm
    · rfl
  -- the purchaser's completed orders grow by this one; nobody else's change
  · show sumF (completedOf b) (insert s.ent.orders id _) = _
    rw [sumF_insert, hf, show fOpt (completedOf b) (some po) = 0 from completedOf_of_ne (by rw [hst]; decide)]
    by_cases hab : a = b <;> simp [completedOf, ha, hab, completedSum]

theorem completedSum_put {e e' : EntState} {id : Nat} {po' : PO} {x : Addr} (ho : e'.orders = insert e.orders id po')
    (h0 : completedOf x po' = fOpt (completedOf x) (find? e.orders id)) : completedSum e' x = completedSum e x := by
  show sumF _ e'.orders = _
  rw [ho, sumF_insert, h0]; show completedSum e x - _ + _ = _; omega

theorem entOp_completed {now : Nat} {a b : EntState} (hi : BookInv a) (h : EntOp now a b) (x : Addr) :
    completedSum b x = completedSum a x := by
  cases h with
  | raise p denom amt id h =>
    obtain ⟨_, _, _, _, _, _, rfl⟩ := EntState.raise_ok h
    exact completedSum_put rfl (by rw [hi.find_fresh]; exact completedOf_of_ne (by decide : stRaised ≠ stCompleted))
  | decide id dec sg h =>
    obtain ⟨_, po, _, _, hf, _, _, _, rfl⟩ := EntState.decide_ok h
    exact completedSum_put rfl (by rw [hf]; rfl)
  | whitelist action addr sg h => obtain ⟨_, _, _, _, _, rfl | rfl⟩ := EntState.whitelistMsg_ok h <;> rfl
  | setParams p h => obtain ⟨_, rfl⟩ := EntState.setParams_ok h; rfl

theorem tallyOne_completed {e e' : EntState} {now id : Nat} (h : e.tallyOne now id = .ok e') (x : Addr) :
    completedSum e' x = completedSum e x := by
  obtain ⟨po, hf, hst, ⟨_, rfl⟩ | ⟨st, hd, rfl⟩⟩ := EntState.tallyOne_ok h
  · rfl
  · have hne : st ≠ stCompleted := by rcases EntState.tallyDecision_some hd with rfl | ⟨rfl, _⟩ <;> decide
    exact completedSum_put rfl (by rw [hf]; exact (completedOf_of_ne hne).trans (completedOf_of_ne (by rw [hst]; decide)).symm)

theorem leaf_keeps_Ment {wall : Nat} {s s' : State} {m : Msg} {r : Resp} (hl : m.isLeaf = true) (hsig : m.SignedOK)
    (h : execMsg wall s m = .ok (s', r)) : KeepsAt Ment s.bank s'.bank :=
  leaf_bank_rel (KeepsAt Ment) (fun x => Ment ≠ x) (keepsAt_rel Ment _) (by decide) (by decide)
    (fun _ hx => (ne_of_blocked hx isBlocked_Ment).symm) (fun x hx => (maySign_ne_Ment x hx).symm) hl hsig h

/-- history assumption for the books: besides `BankSane` and `EntQ`, governance has not changed the enterprise
denomination away from `D` -/
def BooksQ (D : String) (s : State) : Prop := BankSane s ∧ EntQ s ∧ s.ent.params.denom = D

theorem fineStep_books_cases {D : String} {s s' : State} (hpd : s.ent.params.denom = D) (hstr : StreamInv (toSB s))
    (hbook : BookInv s.ent) (hi : BooksInv D s) (h : FineStep s s') :
    ((∀ d, s'.bank.balOf Ment d = s.bank.balOf Ment d) ∧ s'.bank.supply = s.bank.supply ∧
      s'.ent.locked = s.ent.locked ∧ s'.ent.spent = s.ent.spent ∧ s'.ent.totalLocked = s.ent.totalLocked ∧
      s'.ent.totalSpent = s.ent.totalSpent ∧ ∀ a, completedSum s'.ent a = completedSum s.ent a) ∨
    (∃ id x po a, EB.completeOne { ent := s.ent, bank := s.bank } s.nowSec isBlocked id = .ok x ∧
      s' = { s with ent := x.ent, bank := x.bank } ∧ find? s.ent.orders id = some po ∧ po.status = stAccepted ∧
      po.purchaser.decode = some a ∧ Completed D s x po a) ∨
    (∃ (tx : Tx) (payer : Addr) (x : EB) (k : Int), s' = { s with ent := x.ent, bank := x.bank } ∧ tx.payer = some payer ∧
      (tx.hasKind .wrk || tx.hasKind .bcn) = true ∧ 0 < k ∧ k ≤ (s.ent.lockedOf payer).amt ∧ Unlocked D s x payer k ∧
      (Coins.isValid tx.fee = true → k = min (Coins.amountOf tx.fee D) (s.ent.lockedOf payer).amt)) := by
  cases h with
  | leaf wall m r hl hg hsig h =>
    obtain ⟨_, hbal, hsup⟩ := leaf_keeps_Ment hl hsig h hstr.bank
    rcases leaf_ent hl h with he | hop
    · rw [he]; exact Or.inl ⟨hbal, hsup, rfl, rfl, rfl, rfl, fun _ => rfl⟩
    · obtain ⟨e1, e2, e3, e4, _⟩ := entOp_frame hop
      exact Or.inl ⟨hbal, hsup, e1, e2, e3, e4, entOp_completed hbook hop⟩
  | ante tx hu hg h =>
    cases h with
    | none hs => subst hs; exact Or.inl ⟨fun _ => rfl, rfl, rfl, rfl, rfl, rfl, fun _ => rfl⟩
    | unlock payer x hp hk hlk hx hs =>
      have hpM : payer ≠ Ment := maySign_ne_Ment payer (feeSource_maySign hu hg hp (Or.inl rfl))
      rcases unlockForFees_spec hi hpd hstr hpM hlk hx with rfl | ⟨k, hk0, hkl, u, hv⟩
      · subst hs; exact Or.inl ⟨fun _ => rfl, rfl, rfl, rfl, rfl, rfl, fun _ => rfl⟩
      · exact Or.inr (Or.inr ⟨tx, payer, x, k, hs, hp, hk, hk0, hkl, u, hv⟩)
    | deduct payer src b hp hsrc hx hs =>
      subst hs
      -- the fee comes from the payer or from a granter: either can sign, so neither is the escrow
      have hsne : Ment ≠ src := (maySign_ne_Ment src (feeSource_maySign hu hg hp hsrc)).symm
      obtain ⟨_, hbal, hsup⟩ := sendCoins_keeps Ment src Mfee _ _ _ _ hsne (by decide) hx hstr.bank
      exact Or.inl ⟨hbal, hsup, rfl, rfl, rfl, rfl, fun _ => rfl⟩
  | time t _ hs => subst hs; exact Or.inl ⟨fun _ => rfl, rfl, rfl, rfl, rfl, rfl, fun _ => rfl⟩
  | complete id x hx hs =>
    obtain ⟨po, a, hf, hst, ha, c⟩ := completeOne_spec hi hbook hstr hx
    exact Or.inr (Or.inl ⟨id, x, po, a, hx, hs, hf, hst, ha, c⟩)
  | tally id e ht hs =>
    subst hs
    obtain ⟨_, _, e1, e2, e3, e4⟩ := tallyOne_frame ht
    exact Or.inl ⟨fun _ => rfl, rfl, e1, e2, e3, e4, tallyOne_completed ht⟩

theorem books_step {D : String} {s s' : State} (hq : BooksQ D s) (hstr : StreamInv (toSB s)) (hbook : BookInv s.ent)
    (hi : BooksInv D s) (h : FineStep s s') : BooksInv D s' := by
  rcases fineStep_books_cases hq.2.2 hstr hbook hi h with ⟨hbal, _, e1, e2, e3, e4, e5⟩ |
    ⟨_, _, _, _, _, rfl, _, _, _, c⟩ | ⟨_, _, _, _, rfl, _, _, _, _, u, _⟩
  · exact hi.of_eq e1 e2 e3 e4 hbal e5
  · exact c.inv
  · exact u.inv

/-- premise on the scenario genesis: `GenBankValid` and an empty enterprise escrow (the custom-module sections of the
scenario genesis are empty) -/
def GenBooksValid (g : GenCfg) : Prop := GenBankValid g ∧ ∀ d, (initState g).bank.balOf Ment d = 0

theorem booksInv_init (g : GenCfg) (hg : GenBooksValid g) : BooksInv g.ent.denom (initState g) :=
  have empty : CoinBook g.ent.denom [] { denom := g.ent.denom, amt := 0 } := ⟨List.nodup_nil, nofun, rfl, rfl⟩
  .of_books empty empty (fun d => by rw [hg.2 d]; exact (ite_self (0 : Int)).symm) (fun _ => rfl)

structure EntAll (D : String) (s : State) : Prop where
  str : StreamInv (toSB s)
  book : BookInv s.ent
  books : BooksInv D s

theorem entAll_reachable (g : GenCfg) (hg : GenBooksValid g) (s : State) (h : FineReach g (BooksQ g.ent.denom) s) :
    EntAll g.ent.denom s := by
  refine fine_inv g (BooksQ g.ent.denom) (EntAll g.ent.denom)
    ⟨strInv_init g hg.1, bookInv_init g, booksInv_init g hg⟩ ?_ s h
  intro s s' hq hi hs
  exact ⟨strInv_step hq.1 hi.str hs, bookInv_step hq.2.1 hi.book hs, books_step hq hi.str hi.book hi.books hs⟩

end Mainchain
