import Mainchain.Lemmas.GenesisInv
import Mainchain.Lemmas.EntLife
/-
The enterprise section is stored in canonical order in every state of every run along which the order-id counter has room (`EntQ`) — orders by ascending id
(ids are handed out by a counter), the whitelist ascending — so that export followed by import gives back
the *identical* enterprise state, not merely an observably equal one.
-/
namespace Mainchain
open AL Genesis

/-- Read by `importEnt_eq` alone: `importEnt` rebuilds the orders and the whitelist in this order.  The observable equality
(`importEnt_observe`) does without it. -/
structure Canon (e : EntState) : Prop where
  orders : Asc (keys e.orders)
  wl : Asc e.whitelist

theorem canon_step {s s' : State} (hi : BookInv s.ent) (hc : Canon s.ent) (h : FineStep s s') : Canon s'.ent := by
  have h := fineStep_ent h
  generalize s'.ent = e' at h ⊢
  refine ⟨(entStep_orders h).elim (fun hm => hm.keys ▸ hc.orders) (fun ⟨_, _, _, _, hr⟩ => by
    obtain ⟨_, _, _, _, _, _, rfl⟩ := EntState.raise_ok hr
    exact asc_keys_insert _ _ _ hc.orders hi.fresh), ?_⟩
  cases h with
  | same he => rw [(EntState.book_eq_iff.mp he).2.2.2.2.2]; exact hc.wl
  | op hop =>
    cases hop with
    | raise p denom amt id h => obtain ⟨_, _, _, _, _, _, rfl⟩ := EntState.raise_ok h; exact hc.wl
    | decide id dec sg h => obtain ⟨_, _, _, _, _, _, _, _, rfl⟩ := EntState.decide_ok h; exact hc.wl
    | whitelist action addr sg h =>
      obtain ⟨_, _, _, _, _, rfl | rfl⟩ := EntState.whitelistMsg_ok h
      · exact asc_insertSortedNat _ _ hc.wl
      · exact asc_filter _ _ hc.wl
    | setParams p h => obtain ⟨_, rfl⟩ := EntState.setParams_ok h; exact hc.wl
  | complete id x hx he => rw [he, (completeOne_frame hx).2]; exact hc.wl
  | tally id ht => rw [(tallyOne_frame ht).2.1]; exact hc.wl

theorem asc_foldl_insertSorted (l : List Nat) : ∀ acc, Asc acc → Asc (l.foldl (fun acc a => EntState.insertSortedNat a acc) acc) := by
  induction l with
  | nil => intro acc h; exact h
  | cons a rest ih => intro acc h; exact ih _ (asc_insertSortedNat a acc h)

theorem canon_init (g : GenCfg) : Canon (initState g).ent :=
  ⟨by simp [initState, keys, Asc], asc_foldl_insertSorted _ _ (by simp [Asc])⟩

theorem canon_reachable (g : GenCfg) (s : State) (h : FineReach g EntQ s) : BookInv s.ent ∧ Canon s.ent :=
  fine_inv g EntQ (fun s => BookInv s.ent ∧ Canon s.ent) ⟨bookInv_init g, canon_init g⟩
    (fun _ _ hq hi hs => ⟨bookInv_step hq hi.1 hs, canon_step hi.1 hi.2 hs⟩) s h

theorem insertSortedNat_append (x : Nat) (l : List Nat) (h : ∀ y ∈ l, y < x) : EntState.insertSortedNat x l = l ++ [x] := by
  induction l with
  | nil => rfl
  | cons y ys ih =>
    have hy := h y (List.mem_cons_self ..)
    simp only [EntState.insertSortedNat]
    rw [if_neg (by omega), if_neg (by omega), ih (fun z hz => h z (List.mem_cons_of_mem _ hz))]
    rfl

theorem foldl_insertSorted_asc (l : List Nat) : ∀ (acc : List Nat), Asc (acc ++ l) →
    l.foldl (fun acc a => EntState.insertSortedNat a acc) acc = acc ++ l := by
  induction l with
  | nil => intro acc _; simp
  | cons a rest ih =>
    intro acc h
    have hlt : ∀ y ∈ acc, y < a := by
      intro y hy
      unfold Asc at h
      rw [List.pairwise_append] at h
      exact h.2.2 y hy a (List.mem_cons_self ..)
    simp only [List.foldl_cons]
    rw [insertSortedNat_append a acc hlt, ih (acc ++ [a]) (by simpa using h)]
    simp

theorem importEnt_eq (e : EntState) (hi : BookInv e) (hc : Canon e) : importEnt e = e := by
  obtain ⟨_, _, _, o4, o5, _, _, _, _, _⟩ := importEnt_observe e hi
  have hids : sortNat (keys e.orders) = keys e.orders := isort_of_asc _ hc.orders
  have ho : (importEnt e).orders = e.orders := by
    show (sortNat (keys e.orders)).foldl (collectStep e.orders) [] = e.orders
    rw [hids]
    exact (foldl_copy e.orders hi.nodup (fun _ po => po)).trans (List.map_id _)
  have hq : ∀ p, Asc ((sortNat (keys e.orders)).filter p) := fun p => by
    rw [hids]; exact asc_filter p _ hc.orders
  have hr : (importEnt e).raisedQ = e.raisedQ := asc_ext _ _ (hq _) hi.rqAsc o4
  have ha : (importEnt e).acceptedQ = e.acceptedQ := asc_ext _ _ (hq _) hi.aqAsc o5
  have hw : (importEnt e).whitelist = e.whitelist := foldl_insertSorted_asc e.whitelist [] hc.wl
  cases e
  simp only [importEnt] at ho hr ha hw ⊢
  simp only [EntState.mk.injEq]
  exact ⟨trivial, trivial, ho, hr, ha, hw, trivial, trivial, trivial, trivial⟩

end Mainchain
