import Mainchain.Lemmas.Fine
import Mainchain.Lemmas.EntOps
/- Which operation writes which fields of the enterprise state, and hence the four ways in which an elementary step can
change it (`EntStep`). -/
namespace Mainchain
open AL

/-- the enterprise state except the eFUND books -/
def EntState.book (e : EntState) : EntParams × Nat × List (Nat × PO) × List Nat × List Nat × List Addr :=
  (e.params, e.nextId, e.orders, e.raisedQ, e.acceptedQ, e.whitelist)

theorem EntState.book_eq_iff {e e' : EntState} : e'.book = e.book ↔ e'.params = e.params ∧ e'.nextId = e.nextId ∧
    e'.orders = e.orders ∧ e'.raisedQ = e.raisedQ ∧ e'.acceptedQ = e.acceptedQ ∧ e'.whitelist = e.whitelist := by
  simp only [EntState.book, Prod.mk.injEq]

theorem unlockForFees_book {x x' : EB} {now : Int} {p : Addr} {fees : Coins}
    (h : EB.unlockForFees x now p fees = .ok x') : x'.ent.book = x.ent.book := by
  rcases (EB.unlockForFees_ok h).2 with rfl | ⟨k, amt, bank, x1, _, h1, h2, _⟩
  · rfl
  · obtain ⟨_, _, rfl, _⟩ := EB.lockedToSpent_eq h1 h2; rfl

theorem unlockForFees_bank {x x' : EB} {now : Int} {p : Addr} {fees : Coins}
    (h : EB.unlockForFees x now p fees = .ok x') :
    x'.bank = x.bank ∨ ∃ amt, x.bank.undelegate now Ment p amt = .ok x'.bank := by
  rcases (EB.unlockForFees_ok h).2 with rfl | ⟨k, amt, bank, x1, hund, h1, h2, _⟩
  · exact Or.inl rfl
  · obtain ⟨_, _, rfl, _⟩ := EB.lockedToSpent_eq h1 h2; exact Or.inr ⟨amt, hund⟩

theorem completeOne_frame {x x' : EB} {now : Int} {bl : Addr → Bool} {id : Nat}
    (h : EB.completeOne x now bl id = .ok x') :
    x'.ent.params = x.ent.params ∧ x'.ent.whitelist = x.ent.whitelist := by
  obtain ⟨po, a, _, _, _, l, t, he⟩ := EB.completeOne_ent h
  rw [he]; exact ⟨rfl, rfl⟩

theorem completeOne_bank {x x' : EB} {now : Int} {bl : Addr → Bool} {id : Nat}
    (h : EB.completeOne x now bl id = .ok x') :
    x'.bank = x.bank ∨ ∃ r c b1 b2, x.bank.mint Ment [c] = .ok b1 ∧
      b1.sendCoins now Ment r [c] = .ok b2 ∧ b2.delegate now r Ment [c] = .ok x'.bank := by
  obtain ⟨po, a, _, _, _, ⟨_, rfl⟩ | ⟨_, _, _, _, b1, b2, b3, h1, h2, h3, rfl⟩⟩ := EB.completeOne_ok h
  · exact Or.inl rfl
  · exact Or.inr ⟨a, _, b1, b2, h1, h2, h3⟩

theorem completeOne_credit {x x' : EB} {now : Int} {bl : Addr → Bool} {id : Nat} {po : PO} {a : Addr}
    (h : EB.completeOne x now bl id = .ok x') (hf : find? x.ent.orders id = some po) (ha : po.purchaser.decode = some a) :
    find? x'.ent.orders id = some { po with status := stCompleted } ∧
    (x'.ent.lockedOf a).amt = (x.ent.lockedOf a).amt + po.amt ∧
    x'.ent.totalLocked.amt = x.ent.totalLocked.amt + po.amt ∧
    (∀ b, b ≠ a → find? x'.ent.locked b = find? x.ent.locked b) ∧ x'.ent.spent = x.ent.spent := by
  obtain ⟨po', a', hf', _, ha', h⟩ := EB.completeOne_ok h
  rw [hf] at hf'; cases hf'
  rw [ha] at ha'; cases ha'
  rcases h with ⟨h0, rfl⟩ | ⟨_, _, _, _, _, _, _, _, _, _, rfl⟩
  · exact ⟨find_insert_eq .., by rw [h0, Int.add_zero]; rfl, by rw [h0, Int.add_zero]; rfl, fun _ _ => rfl, rfl⟩
  · exact ⟨find_insert_eq .., by simp only [EntState.lockedOf, find_insert_eq, Option.getD_some], rfl,
      fun b hb => find_insert_ne _ _ _ _ (Ne.symm hb), rfl⟩

theorem tallyOne_frame {e e' : EntState} {now id : Nat} (h : e.tallyOne now id = .ok e') :
    e'.params = e.params ∧ e'.whitelist = e.whitelist ∧ e'.locked = e.locked ∧
    e'.spent = e.spent ∧ e'.totalLocked = e.totalLocked ∧ e'.totalSpent = e.totalSpent := by
  obtain ⟨po, _, _, ⟨_, rfl⟩ | ⟨st, _, rfl⟩⟩ := EntState.tallyOne_ok h <;> exact ⟨rfl, rfl, rfl, rfl, rfl, rfl⟩

theorem entOp_frame {now : Nat} {a b : EntState} (h : EntOp now a b) :
    b.locked = a.locked ∧ b.spent = a.spent ∧ b.totalLocked = a.totalLocked ∧ b.totalSpent = a.totalSpent ∧
    (b.params = a.params ∨ b.params.validate = true) := by
  cases h with
  | raise p denom amt id h => obtain ⟨_, _, _, _, _, _, rfl⟩ := EntState.raise_ok h; exact ⟨rfl, rfl, rfl, rfl, Or.inl rfl⟩
  | decide id dec sg h => obtain ⟨_, _, _, _, _, _, _, _, rfl⟩ := EntState.decide_ok h; exact ⟨rfl, rfl, rfl, rfl, Or.inl rfl⟩
  | whitelist action addr sg h =>
    obtain ⟨_, _, _, _, _, rfl | rfl⟩ := EntState.whitelistMsg_ok h <;> exact ⟨rfl, rfl, rfl, rfl, Or.inl rfl⟩
  | setParams p h => obtain ⟨hv, rfl⟩ := EntState.setParams_ok h; exact ⟨rfl, rfl, rfl, rfl, Or.inr hv⟩

inductive EntStep (s : State) (e' : EntState) : Prop where
  | same (h : e'.book = s.ent.book)
  | op (h : EntOp s.nowSecU s.ent e')
  | complete (id : Nat) (x : EB)
      (h : EB.completeOne { ent := s.ent, bank := s.bank } s.nowSec isBlocked id = .ok x) (he : e' = x.ent)
  | tally (id : Nat) (h : s.ent.tallyOne s.nowSecU id = .ok e')

theorem leaf_ent {wall : Nat} {s s' : State} {m : Msg} {r : Resp} (hl : m.isLeaf = true)
    (h : execMsg wall s m = .ok (s', r)) : s'.ent = s.ent ∨ EntOp s.nowSecU s.ent s'.ent := by
  cases FineStep.leafStep hl h with
  | ent e hop hs => subst hs; exact Or.inr hop
  | reg k r _ hs => subst hs; exact Or.inl (ent_setReg _ _ _)
  | str x _ hs => subst hs; exact Or.inl rfl
  | strParams fee _ hs => subst hs; exact Or.inl rfl
  | send a b coins bank _ _ hs => subst hs; exact Or.inl rfl
  | authz ea g hs => subst hs; exact Or.inl rfl
  | feegrant ea al hs => subst hs; exact Or.inl rfl
  | revoke g hs => subst hs; exact Or.inl rfl

theorem fineStep_ent {s s' : State} (h : FineStep s s') : EntStep s s'.ent := by
  cases h with
  | leaf wall m r hl _ _ h => exact (leaf_ent hl h).elim (fun he => .same (by rw [he])) .op
  | ante tx _ _ h =>
    cases h with
    | none hs => subst hs; exact .same rfl
    | unlock payer x _ _ _ hx hs => subst hs; exact .same (unlockForFees_book hx)
    | deduct _ _ _ _ _ _ hs => subst hs; exact .same rfl
  | time t _ hs => subst hs; exact .same rfl
  | complete id x hx hs => subst hs; exact .complete id x hx rfl
  | tally id e he hs => subst hs; exact .tally id he

end Mainchain
