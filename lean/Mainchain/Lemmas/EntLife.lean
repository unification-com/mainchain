import Mainchain.Lemmas.EntOrders
/-
Life-cycle of purchase orders along every run: how the record of an order can differ between two
states of the same history.
-/
namespace Mainchain
open AL

def StatusStep (a b : Nat) : Prop :=
  a = b ∨ (a = stRaised ∧ b = stAccepted) ∨ (a = stRaised ∧ b = stRejected) ∨ (a = stAccepted ∧ b = stCompleted)

/-- reflexive–transitive closure of `StatusStep` : raised → accepted → completed | raised → rejected -/
def StatusLE (a b : Nat) : Prop :=
  a = b ∨ (a = stRaised ∧ (b = stAccepted ∨ b = stRejected ∨ b = stCompleted)) ∨ (a = stAccepted ∧ b = stCompleted)

theorem StatusStep.le {a b : Nat} (h : StatusStep a b) : StatusLE a b := by
  rcases h with h | ⟨h1, h2⟩ | ⟨h1, h2⟩ | ⟨h1, h2⟩
  · exact Or.inl h
  · exact Or.inr (Or.inl ⟨h1, Or.inl h2⟩)
  · exact Or.inr (Or.inl ⟨h1, Or.inr (Or.inl h2)⟩)
  · exact Or.inr (Or.inr ⟨h1, h2⟩)

theorem StatusLE.ne_raised {a b : Nat} (h : StatusLE a b) (ha : a ≠ stRaised) : b ≠ stRaised := by
  rcases h with rfl | ⟨h, _⟩ | ⟨_, rfl⟩
  · exact ha
  · exact absurd h ha
  · decide

theorem StatusLE.trans {a b c : Nat} (h1 : StatusLE a b) (h2 : StatusLE b c) : StatusLE a c := by
  rcases h1 with rfl | ⟨ha, hb⟩ | ⟨ha, rfl⟩
  · exact h2
  · -- from raised everything but raised is reachable
    rcases h2 with rfl | ⟨_, hc⟩ | ⟨_, hc⟩
    · exact Or.inr (Or.inl ⟨ha, hb⟩)
    · exact Or.inr (Or.inl ⟨ha, hc⟩)
    · exact Or.inr (Or.inl ⟨ha, Or.inr (Or.inr hc)⟩)
  · -- completed is final
    rcases h2 with rfl | ⟨h, _⟩ | ⟨h, _⟩
    · exact Or.inr (Or.inr ⟨ha, rfl⟩)
    · exact absurd h (by decide)
    · exact absurd h (by decide)

structure POEvolves (po po' : PO) : Prop where
  id : po'.id = po.id
  purchaser : po'.purchaser = po.purchaser
  denom : po'.denom = po.denom
  amt : po'.amt = po.amt
  raiseTime : po'.raiseTime = po.raiseTime
  status : StatusLE po.status po'.status
  frozen : po.status = stRejected ∨ po.status = stCompleted → po' = po
  decisions : ∃ more, po'.decisions = po.decisions ++ more
  decisionsFrozen : po.status ≠ stRaised → po'.decisions = po.decisions
  completionFrozen : po.status ≠ stRaised → po'.completionTime = po.completionTime

theorem POEvolves.refl (po : PO) : POEvolves po po :=
  ⟨rfl, rfl, rfl, rfl, rfl, Or.inl rfl, fun _ => rfl, ⟨[], (List.append_nil _).symm⟩, fun _ => rfl, fun _ => rfl⟩

theorem POEvolves.trans {a b c : PO} (h1 : POEvolves a b) (h2 : POEvolves b c) : POEvolves a c := by
  refine ⟨h2.id.trans h1.id, h2.purchaser.trans h1.purchaser, h2.denom.trans h1.denom, h2.amt.trans h1.amt,
    h2.raiseTime.trans h1.raiseTime, h1.status.trans h2.status, ?_, ?_, ?_, ?_⟩
  · intro hf
    have hb := h1.frozen hf
    subst hb
    exact h2.frozen hf
  · obtain ⟨m1, e1⟩ := h1.decisions
    obtain ⟨m2, e2⟩ := h2.decisions
    exact ⟨m1 ++ m2, by rw [e2, e1, List.append_assoc]⟩
  · intro hne; rw [h2.decisionsFrozen (h1.status.ne_raised hne), h1.decisionsFrozen hne]
  · intro hne; rw [h2.completionFrozen (h1.status.ne_raised hne), h1.completionFrozen hne]

theorem POEvolves.of_raised {po po' : PO} (hst : po.status = stRaised) (hid : po'.id = po.id)
    (hp : po'.purchaser = po.purchaser) (hd : po'.denom = po.denom) (ha : po'.amt = po.amt) (hr : po'.raiseTime = po.raiseTime)
    (hs : po'.status = stRaised ∨ po'.status = stAccepted ∨ po'.status = stRejected)
    (hm : ∃ more, po'.decisions = po.decisions ++ more) : POEvolves po po' where
  id := hid
  purchaser := hp
  denom := hd
  amt := ha
  raiseTime := hr
  status := hs.elim (fun h => Or.inl (hst.trans h.symm)) fun h => Or.inr (Or.inl ⟨hst, h.elim Or.inl fun h => Or.inr (Or.inl h)⟩)
  frozen := fun hc => by rw [hst] at hc; rcases hc with hc | hc <;> cases hc
  decisions := hm
  decisionsFrozen := fun hc => absurd hst hc
  completionFrozen := fun hc => absurd hst hc

theorem POEvolves.complete {po : PO} (hst : po.status = stAccepted) : POEvolves po { po with status := stCompleted } :=
  ⟨rfl, rfl, rfl, rfl, rfl, Or.inr (Or.inr ⟨hst, rfl⟩), fun hc => (by rw [hst] at hc; rcases hc with hc | hc <;> cases hc),
   ⟨[], (List.append_nil _).symm⟩, fun _ => rfl, fun _ => rfl⟩

def BookLE (e e' : EntState) : Prop :=
  ∀ id po, find? e.orders id = some po → ∃ po', find? e'.orders id = some po' ∧ POEvolves po po'

theorem BookLE.refl (e : EntState) : BookLE e e := fun _ po h => ⟨po, h, .refl po⟩

theorem BookLE.trans {a b c : EntState} (h1 : BookLE a b) (h2 : BookLE b c) : BookLE a c := by
  intro id po h
  obtain ⟨po1, hf1, e1⟩ := h1 id po h
  obtain ⟨po2, hf2, e2⟩ := h2 id po1 hf1
  exact ⟨po2, hf2, e1.trans e2⟩

/-- what an elementary step other than a raise does to the stored orders -/
inductive OrdersMove (e e' : EntState) : Prop where
  | same (h : e'.orders = e.orders)
  | move (id : Nat) (po po' : PO) (hf : find? e.orders id = some po) (hev : POEvolves po po')
      (h : e'.orders = insert e.orders id po')

namespace OrdersMove
variable {e e' : EntState}

theorem bookLE (h : OrdersMove e e') : BookLE e e' := by
  intro x q hx
  cases h with
  | same h => exact ⟨q, h ▸ hx, .refl q⟩
  | move id po po' hf hev h =>
    rw [h, find_insert]
    split
    · rename_i he; subst he; rw [hf] at hx; cases hx; exact ⟨po', rfl, hev⟩
    · exact ⟨q, hx, .refl q⟩

theorem back (h : OrdersMove e e') {x : Nat} {q' : PO} (hx : find? e'.orders x = some q') :
    ∃ q, find? e.orders x = some q ∧ POEvolves q q' := by
  cases h with
  | same h => exact ⟨q', h ▸ hx, .refl q'⟩
  | move id po po' hf hev h =>
    rw [h, find_insert] at hx
    split at hx
    · rename_i he; subst he; cases hx; exact ⟨po, hf, hev⟩
    · exact ⟨q', hx, .refl q'⟩

theorem keys (h : OrdersMove e e') : keys e'.orders = keys e.orders := by
  cases h with
  | same h => rw [h]
  | move id po po' hf _ h => rw [h, keys_insert_of_mem _ _ _ (mem_keys_of_find _ _ _ hf)]

end OrdersMove

theorem decide_move {e e' : EntState} {now id dec : Nat} {sg : AddrTok} (h : e.decide_ now id dec sg = .ok e') :
    OrdersMove e e' := by
  obtain ⟨a, po, _, _, hf, _, hst, _, rfl⟩ := EntState.decide_ok h
  exact .move id po { po with decisions := po.decisions ++ [{ signer := .canon a, decision := dec, time := now }] } hf
    (.of_raised hst rfl rfl rfl rfl rfl (Or.inl hst) ⟨_, rfl⟩) rfl

theorem whitelistMsg_move {e e' : EntState} {action : Nat} {a sg : AddrTok} (h : e.whitelistMsg action a sg = .ok e') :
    OrdersMove e e' := by
  obtain ⟨_, _, _, _, _, rfl | rfl⟩ := EntState.whitelistMsg_ok h <;> exact .same rfl

theorem setParams_move {e e' : EntState} {p : EntParams} (h : e.setParams p = .ok e') : OrdersMove e e' := by
  obtain ⟨_, rfl⟩ := EntState.setParams_ok h; exact .same rfl

theorem entOp_orders {now : Nat} {e e' : EntState} (h : EntOp now e e') :
    OrdersMove e e' ∨ ∃ p denom amt id, e.raise now p denom amt = .ok (e', id) := by
  cases h with
  | raise p denom amt id h => exact Or.inr ⟨p, denom, amt, id, h⟩
  | decide id dec sg h => exact Or.inl (decide_move h)
  | whitelist action addr sg h => exact Or.inl (whitelistMsg_move h)
  | setParams p h => exact Or.inl (setParams_move h)

theorem tallyOne_move {e e' : EntState} {now id : Nat} (h : e.tallyOne now id = .ok e') : OrdersMove e e' := by
  obtain ⟨po, hf, hst, ⟨_, rfl⟩ | ⟨st, hd, rfl⟩⟩ := EntState.tallyOne_ok h
  · exact .same rfl
  · exact .move id po { po with status := st, completionTime := now } hf (.of_raised hst rfl rfl rfl rfl rfl
      (Or.inr ((EntState.tallyDecision_some hd).elim Or.inr fun h => Or.inl h.1)) ⟨[], (List.append_nil _).symm⟩) rfl

theorem completeOne_move {x x' : EB} {now : Int} {bl : Addr → Bool} {id : Nat} (h : EB.completeOne x now bl id = .ok x') :
    OrdersMove x.ent x'.ent := by
  obtain ⟨po, a, hf, hst, _, l, t, he⟩ := EB.completeOne_ent h
  exact .move id po { po with status := stCompleted } hf (.complete hst) (by rw [he]; rfl)

theorem entStep_orders {s : State} {e' : EntState} (h : EntStep s e') :
    OrdersMove s.ent e' ∨ ∃ p denom amt id, s.ent.raise s.nowSecU p denom amt = .ok (e', id) := by
  cases h with
  | same he => exact Or.inl (.same (EntState.book_eq_iff.mp he).2.2.1)
  | op hop => exact entOp_orders hop
  | complete id x hx he => exact Or.inl (he ▸ completeOne_move hx)
  | tally id ht => exact Or.inl (tallyOne_move ht)

/-- the new id is above those of the stored orders -/
theorem raise_bookLE {e e' : EntState} {now : Nat} {p : AddrTok} {denom : String} {amt : Int} {id : Nat} (hi : BookInv e)
    (h : e.raise now p denom amt = .ok (e', id)) : BookLE e e' := by
  obtain ⟨_, _, _, _, _, _, rfl⟩ := EntState.raise_ok h
  intro x q hx
  exact ⟨q, by rw [← hx]; exact find_insert_ne _ _ _ _ (Nat.ne_of_gt (hi.fresh x q hx)), .refl q⟩

theorem fineStep_bookLE {s s' : State} (hi : BookInv s.ent) (h : FineStep s s') : BookLE s.ent s'.ent := by
  rcases entStep_orders (fineStep_ent h) with hm | ⟨_, _, _, _, hr⟩
  · exact hm.bookLE
  · exact raise_bookLE hi hr

theorem path_bookLE {g : GenCfg} {a b : State} (ha : FineReach g EntQ a) (hp : FinePathQ EntQ a b) : BookLE a.ent b.ent :=
  path_rel (g := g) (Q := EntQ) (fun x y => BookLE x.ent y.ent) (fun x => .refl x.ent) (fun _ _ _ h1 h2 => h1.trans h2)
    (fun x _ hx _ hs => fineStep_bookLE (bookInv_reachable g x hx) hs) ha hp

end Mainchain
