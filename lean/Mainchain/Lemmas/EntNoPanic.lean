import Mainchain.Lemmas.EntBooks
import Mainchain.Lemmas.EntBlock
/- The enterprise BeginBlocker cannot panic on a state that satisfies the invariants and has room below 2^255 for the
queued orders. -/
namespace Mainchain
open AL Bank

/-- every queued id is a raised order, and tallying one does not touch the others -/
theorem tally_succeeds (e : EntState) (now : Nat) (hi : BookInv e) : ∃ e', e.tally now = .ok e' :=
  foldlM_succeeds (fun (e : EntState) id => e.tallyOne now id)
    (fun q e => q.Nodup ∧ ∀ x ∈ q, ∃ po, find? e.orders x = some po ∧ po.status = stRaised)
    (fun id rest e ⟨hnd, hall⟩ => by
      have hn := List.nodup_cons.mp hnd
      obtain ⟨po, hf, hst⟩ := hall id (List.mem_cons_self ..)
      obtain ⟨e1, h1⟩ := EntState.tallyOne_succeeds (now := now) hf hst
      refine ⟨e1, h1, hn.2, fun x hx => ?_⟩
      rw [(tallyOne_orders h1).2.1 x (fun he => hn.1 (he ▸ hx))]
      exact hall x (List.mem_cons_of_mem _ hx))
    e.raisedQ e ⟨asc_nodup _ hi.rqAsc, fun x hx => (hi.rq x).mp hx⟩

theorem leaf_orders {wall : Nat} {s s' : State} {m : Msg} {r : Resp} (hl : m.isLeaf = true)
    (h : execMsg wall s m = .ok (s', r)) :
    (∃ p amt denom id, m = .entRaise p amt denom ∧ s.ent.raise s.nowSecU p denom amt = .ok (s'.ent, id)) ∨
    OrdersMove s.ent s'.ent := by
  cases execMsg_ok h with
  | entRaise hx => exact Or.inl ⟨_, _, _, _, rfl, hx⟩
  | entDecide hx => exact Or.inr (decide_move hx)
  | entWl hx => exact Or.inr (whitelistMsg_move hx)
  | entParams _ hx => exact Or.inr (setParams_move hx)
  | authzExec => cases hl
  | regReg | regRec | regBuy | regParams => exact Or.inr (.same (by rw [ent_setReg]))
  | _ => exact Or.inr (.same rfl)

def OrdersOK (D : String) (s : State) : Prop :=
  ∀ id po, find? s.ent.orders id = some po → po.denom = D ∧ ∃ a, po.purchaser.decode = some a ∧ MaySign a

theorem ordersOK_step {D : String} {s s' : State} (hq : s.ent.params.denom = D) (hi : OrdersOK D s) (h : FineStep s s') :
    OrdersOK D s' := by
  have keep : ∀ {e' : EntState}, OrdersMove s.ent e' → ∀ id po, find? e'.orders id = some po →
      po.denom = D ∧ ∃ a, po.purchaser.decode = some a ∧ MaySign a := by
    intro e' hm id po' hf
    obtain ⟨po, hf0, ev⟩ := hm.back hf
    obtain ⟨h1, a, h2, h3⟩ := hi id po hf0
    exact ⟨ev.denom.trans h1, a, ev.purchaser ▸ h2, h3⟩
  cases h with
  | leaf wall m r hl hg hsig hx =>
    rcases leaf_orders hl hx with ⟨p, amt, denom, id, rfl, hr⟩ | hm
    · -- the new order is in the parameter denomination, for the purchaser that signed the message
      obtain ⟨_, _, hd, _, _, _, he⟩ := EntState.raise_ok hr
      obtain ⟨a, ha, hmay⟩ := hsig
      simp only [Msg.signer_eq, Msg.signerArg] at ha
      rw [OrdersOK, he]
      exact forall_find_insert _ _ _ ⟨hd.trans hq, a, ha, hmay⟩ fun x po' _ => hi x po'
    · exact keep hm
  | ante tx _ _ hx =>
    cases hx with
    | none hs => subst hs; exact hi
    | unlock payer x _ _ _ hx hs =>
      subst hs; exact keep (.same (EntState.book_eq_iff.mp (unlockForFees_book hx)).2.2.1)
    | deduct _ _ _ _ _ _ hs => subst hs; exact hi
  | time t _ hs => subst hs; exact hi
  | complete id x hx hs => subst hs; exact keep (completeOne_move hx)
  | tally id e ht hs => subst hs; exact keep (tallyOne_move ht)

theorem ordersOK_reachable (g : GenCfg) (s : State) (h : FineReach g (BooksQ g.ent.denom) s) : OrdersOK g.ent.denom s := by
  induction h with
  | init => intro id po hf; simp [initState] at hf
  | step s s' hr hq hs ih => exact ordersOK_step hq.2.2 ih hs

/-- room for minting `A` more coins of denomination `D` without overflowing the bank's 256-bit integers -/
structure MintRoom (D : String) (s : State) (A : Int) : Prop where
  all : ∀ a, (s.bank.balOf a D : Int) + A < 2 ^ 255
  supply : (s.bank.supplyOf D : Int) + A < 2 ^ 255
  total : s.ent.totalLocked.amt + A < 2 ^ 255

theorem MintRoom.head {D : String} {s : State} {A P : Int} (h : MintRoom D s (A + P)) (hP : 0 ≤ P) : MintRoom D s A :=
  have key : ∀ {y B : Int}, y + (A + P) < B → y + A < B := fun h => by omega
  ⟨fun a => key (h.all a), key h.supply, key h.total⟩

theorem MintRoom.tail {D : String} {s : State} {x : EB} {po : PO} {a : Addr} {P : Int} (h : MintRoom D s (po.amt + P))
    (hA : 0 ≤ po.amt) (c : Completed D s x po a) (htot : x.ent.totalLocked.amt = s.ent.totalLocked.amt + po.amt) :
    MintRoom D { s with ent := x.ent, bank := x.bank } P := by
  have key : ∀ {y d B : Int}, y + (po.amt + P) < B → d ≤ po.amt → y + d + P < B := fun h hd => by omega
  refine ⟨fun b => ?_, ?_, ?_⟩
  · show (x.bank.balOf b D : Int) + P < _
    rw [c.bal b D]
    split
    · exact key (h.all b) (Int.le_refl _)
    · exact key (h.all b) hA
  · show (x.bank.supplyOf D : Int) + P < _
    rw [c.supply D, if_pos rfl]
    exact key h.supply (Int.le_refl _)
  · show x.ent.totalLocked.amt + P < _
    rw [htot]
    exact key h.total (Int.le_refl _)

theorem completeOne_succeeds_of_room {D : String} {s : State} {id : Nat} (hi : BooksInv D s) (hbook : BookInv s.ent)
    (hstr : StreamInv (toSB s)) (hok : OrdersOK D s) (hD : validDenom D = true) (hpd : s.ent.params.denom = D)
    {po : PO} (hf : find? s.ent.orders id = some po) (hst : po.status = stAccepted) (room : MintRoom D s po.amt) :
    ∃ x, EB.completeOne { ent := s.ent, bank := s.bank } s.nowSec isBlocked id = .ok x := by
  obtain ⟨hden, a, ha, hmay⟩ := hok id po hf
  subst hden
  have hA := hbook.amtPos id po hf
  obtain ⟨b1, b2, b3, h1, h2, h3⟩ := mintLock_bank_succeeds s.bank s.nowSec a { denom := po.denom, amt := po.amt } hA
    (denom_nonempty hD) hstr.bank (hstr.modNoVest Ment (by decide)) (maySign_ne_Ment a hmay) (room.all Ment) (room.all a)
    room.supply
  -- the purchaser's locked record is at most the total, for which there is room
  have hL0 := hi.lockedBook.nonneg a
  have hLle := hi.lockedBook.le_total a
  rw [← lockedOf_amt] at hL0 hLle
  have f1 : fitsInt256 ((s.ent.lockedOf a).amt + po.amt) = true :=
    fits_of_lt _ (Int.add_nonneg hL0 (Int.le_of_lt hA)) (Int.lt_of_le_of_lt (Int.add_le_add_right hLle _) room.total)
  have f2 : fitsInt256 (s.ent.totalLocked.amt + po.amt) = true :=
    fits_of_lt _ (Int.add_nonneg (Int.le_trans hL0 hLle) (Int.le_of_lt hA)) room.total
  exact EB.completeOne_succeeds hf hst ha (EB.mintAndLock_iff.mpr
    (Or.inr ⟨hA, hD, maySign_not_blocked a hmay, b1, b2, b3, h1, h2, h3, hi.lockedOf_denom hpd a, f1, hi.totL, f2, rfl⟩))

structure MintInv (D : String) (s : State) : Prop where
  str : StreamInv (toSB s)
  book : BookInv s.ent
  books : BooksInv D s
  orders : OrdersOK D s
  denom : s.ent.params.denom = D

theorem mintInv_complete {D : String} {s : State} {id : Nat} {x : EB} (hi : MintInv D s)
    (h : EB.completeOne { ent := s.ent, bank := s.bank } s.nowSec isBlocked id = .ok x) :
    MintInv D { s with ent := x.ent, bank := x.bank } :=
  ⟨strInv_complete s id x hi.str h, completeOne_bookInv hi.book h,
   (completeOne_spec hi.books hi.book hi.str h).elim fun _ ⟨_, _, _, _, c⟩ => c.inv,
   ordersOK_step hi.denom hi.orders (.complete id x h rfl),
   (congrArg EntParams.denom (completeOne_frame h).1).trans hi.denom⟩

def pendingAmt (e : EntState) (id : Nat) : Int :=
  match find? e.orders id with
  | some po => po.amt
  | none => 0

def pendingSum (e : EntState) (q : List Nat) : Int := (q.map (pendingAmt e)).sum

theorem pendingSum_nonneg (e : EntState) (hi : BookInv e) (q : List Nat) : 0 ≤ pendingSum e q := by
  induction q with
  | nil => exact Int.le_refl 0
  | cons id rest ih =>
    have h0 : 0 ≤ pendingAmt e id := by
      unfold pendingAmt
      cases hf : find? e.orders id with
      | none => exact Int.le_refl 0
      | some po => exact Int.le_of_lt (hi.amtPos id po hf)
    exact Int.add_nonneg h0 ih

structure BlockRoom (D : String) (s : State) (q : List Nat) : Prop where
  all : ∀ a, (s.bank.balOf a D : Int) + pendingSum s.ent q < 2 ^ 255
  supply : (s.bank.supplyOf D : Int) + pendingSum s.ent q < 2 ^ 255
  total : s.ent.totalLocked.amt + pendingSum s.ent q < 2 ^ 255

theorem blockRoom_iff {D : String} {s : State} {q : List Nat} : BlockRoom D s q ↔ MintRoom D s (pendingSum s.ent q) :=
  ⟨fun h => ⟨h.all, h.supply, h.total⟩, fun h => ⟨h.all, h.supply, h.total⟩⟩

theorem processAccepted_succeeds (D : String) (hD : validDenom D = true) (s : State) (hi : MintInv D s)
    (hroom : BlockRoom D s s.ent.acceptedQ) :
    ∃ x, EB.processAccepted { ent := s.ent, bank := s.bank } s.nowSec isBlocked = .ok x := by
  -- the fold runs on `(ent, bank)`; the invariants speak of the state `st x` around them
  let st : EB → State := fun x => { s with ent := x.ent, bank := x.bank }
  refine foldlM_succeeds (fun (x : EB) (id : Nat) => EB.completeOne x s.nowSec isBlocked id)
    (fun q x => MintInv D (st x) ∧ q.Nodup ∧ (∀ id ∈ q, id ∈ x.ent.acceptedQ) ∧ BlockRoom D (st x) q)
    ?_ s.ent.acceptedQ _ ⟨hi, asc_nodup _ hi.book.aqAsc, fun _ h => h, hroom⟩
  intro id rest x ⟨hi, hnd, hmem, hroom⟩
  have hn := List.nodup_cons.mp hnd
  obtain ⟨po, hf, hst⟩ := (hi.book.aq id).mp (hmem id (List.mem_cons_self ..))
  have hA := hi.book.amtPos id po hf
  -- the room for the whole queue is room for this order and then for the rest
  have room : MintRoom D (st x) (po.amt + pendingSum x.ent rest) := by
    have hsum : pendingSum x.ent (id :: rest) = po.amt + pendingSum x.ent rest := by
      simp [pendingSum, pendingAmt, show find? x.ent.orders id = some po from hf]
    exact hsum ▸ blockRoom_iff.mp hroom
  obtain ⟨x1, h1⟩ := completeOne_succeeds_of_room hi.books hi.book hi.str hi.orders hD hi.denom hf hst
    (room.head (pendingSum_nonneg x.ent hi.book rest))
  have hi1 := mintInv_complete hi h1
  obtain ⟨po', a, hf', _, ha, c⟩ := completeOne_spec hi.books hi.book hi.str h1
  rw [hf] at hf'; cases hf'
  have hoth : ∀ y ∈ rest, find? x1.ent.orders y = find? x.ent.orders y := fun y hy =>
    (completeOne_orders h1).1 y fun he => hn.1 (he ▸ hy)
  have hpend : pendingSum x1.ent rest = pendingSum x.ent rest :=
    congrArg List.sum (List.map_congr_left fun y hy => by simp only [pendingAmt, hoth y hy])
  refine ⟨x1, h1, hi1, hn.2, fun y hy => ?_, blockRoom_iff.mpr ?_⟩
  · obtain ⟨poy, hfy, hsty⟩ := (hi.book.aq y).mp (hmem y (List.mem_cons_of_mem _ hy))
    exact (hi1.book.aq y).mpr ⟨poy, (hoth y hy).trans hfy, hsty⟩
  · show MintRoom D (st x1) (pendingSum x1.ent rest)
    rw [hpend]
    exact room.tail (Int.le_of_lt hA) c (completeOne_credit h1 hf ha).2.2.1

theorem beginBlock_succeeds (D : String) (hD : validDenom D = true) (s : State) (t : Int) (hi : MintInv D s)
    (hroom : BlockRoom D s s.ent.acceptedQ) :
    ∃ s', beginBlock Facts.beginBlockSteps { s with time := t } = .ok s' := by
  have hi' : MintInv D { s with time := t } :=
    ⟨hi.str, hi.book, hi.books.of_eq rfl rfl rfl rfl (fun _ => rfl) (fun _ => rfl), hi.orders, hi.denom⟩
  obtain ⟨x, hx⟩ := processAccepted_succeeds D hD { s with time := t } hi' ⟨hroom.all, hroom.supply, hroom.total⟩
  obtain ⟨e, he⟩ := tally_succeeds x.ent ({ s with time := t } : State).nowSecU (processAccepted_bookInv hi.book hx).1
  rw [beginBlock_eq, hx]
  exact ⟨_, by show (x.ent.tally _ >>= _) = _; rw [he]; rfl⟩

end Mainchain
