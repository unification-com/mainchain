import Mainchain.Lemmas.Monad
import Mainchain.Lemmas.AList
import Mainchain.Model.Enterprise
/- Each operation of x/enterprise: a successful call is characterised by its guards and by the state it returns. -/
namespace Mainchain
open AL

variable {e e' : EntState} {x x' : EB}

theorem EntState.raise_ok {now : Nat} {p : AddrTok} {denom : String} {amt : Int} {id : Nat}
    (h : e.raise now p denom amt = .ok (e', id)) :
    ∃ acc, p.decode = some acc ∧ denom = e.params.denom ∧ 0 < amt ∧ e.whitelist.contains acc = true ∧ id = e.nextId ∧
      e' = { e with orders := insert e.orders e.nextId { id := e.nextId, purchaser := p, denom := denom, amt := amt,
                                                         status := stRaised, raiseTime := now, completionTime := 0, decisions := [] }
                    raisedQ := EntState.insertSortedNat e.nextId e.raisedQ
                    nextId := addU64 e.nextId 1 } := by
  simp only [EntState.raise, bind_eq_ok, pure_eq_ok, Prod.mk.injEq, require_eq_ok, decide_eq_true_eq, decodeM_eq_ok] at h
  obtain ⟨acc, hacc, _, hd, _, hamt, _, hwl, rfl, rfl⟩ := h
  exact ⟨acc, hacc, hd, hamt, hwl, rfl, rfl⟩

theorem EntState.findOrder_iff {id : Nat} {po : PO} : e.findOrder id = .ok po ↔ find? e.orders id = some po := by
  unfold EntState.findOrder
  split <;> simp [*]

theorem EntState.alreadyDecided_false {po : PO} {sg : AddrTok} {a : Addr} : EntState.alreadyDecided po sg a = false ↔
    ∀ d ∈ po.decisions, sg ≠ d.signer ∧ d.signer.decode ≠ some a := by
  simp only [EntState.alreadyDecided, List.any_eq_false, Bool.or_eq_true, decide_eq_true_eq, not_or, ne_eq]

theorem EntState.decide_ok {now id dec : Nat} {sg : AddrTok} (h : e.decide_ now id dec sg = .ok e') :
    ∃ a po, sg.decode = some a ∧ e.isAuthorised a = true ∧ find? e.orders id = some po ∧ validAcceptReject dec = true ∧
      po.status = stRaised ∧ EntState.alreadyDecided po sg a = false ∧
      e' = { e with orders := insert e.orders id { po with decisions := po.decisions ++
                                                   [{ signer := AddrTok.canon a, decision := dec, time := now }] } } := by
  simp only [EntState.decide_, bind_eq_ok, pure_eq_ok, require_eq_ok, decide_eq_true_eq, decodeM_eq_ok, EntState.findOrder_iff,
    Bool.not_eq_true'] at h
  obtain ⟨a, ha, _, hauth, po, hpo, _, hdec, _, _, _, hst, _, hnot, rfl⟩ := h
  exact ⟨a, po, ha, hauth, hpo, hdec, hst, hnot, rfl⟩

theorem EntState.whitelistMsg_ok {action : Nat} {addrT sg : AddrTok} (h : e.whitelistMsg action addrT sg = .ok e') :
    ∃ signer addr, sg.decode = some signer ∧ addrT.decode = some addr ∧ e.isAuthorised signer = true ∧
      (e' = { e with whitelist := EntState.insertSortedNat addr e.whitelist } ∨
       e' = { e with whitelist := e.whitelist.filter (· ≠ addr) }) := by
  simp only [EntState.whitelistMsg, bind_eq_ok, require_eq_ok, decodeM_eq_ok] at h
  obtain ⟨signer, hs, addr, ha, _, hauth, _, _, h⟩ := h
  refine ⟨signer, addr, hs, ha, hauth, ?_⟩
  split at h <;> simp only [bind_eq_ok, pure_eq_ok] at h <;> obtain ⟨_, _, rfl⟩ := h
  · exact Or.inl rfl
  · exact Or.inr rfl

theorem EntState.setParams_ok {p : EntParams} (h : e.setParams p = .ok e') : p.validate = true ∧ e' = { e with params := p } := by
  simp only [EntState.setParams, bind_eq_ok, pure_eq_ok, require_eq_ok] at h
  obtain ⟨_, hv, rfl⟩ := h
  exact ⟨hv, rfl⟩

theorem EntState.tallyDecision_some {p : EntParams} {now : Nat} {po : PO} {st : Nat} (h : EntState.tallyDecision p now po = some st) :
    st = stRejected ∨
    (st = stAccepted ∧ intOfU64 p.minAccepts ≤ ((po.decisions.filter (·.decision = stAccepted)).length : Int)) := by
  unfold EntState.tallyDecision at h
  simp only at h
  split at h
  · cases h; exact Or.inl rfl
  · split at h
    · cases h; exact Or.inl rfl
    · split at h
      · rename_i hq; cases h; exact Or.inr ⟨rfl, hq⟩
      · cases h

def EntState.decided (e : EntState) (now id : Nat) (po : PO) (st : Nat) : EntState :=
  { e with orders := insert e.orders id { po with status := st, completionTime := now }
           raisedQ := e.raisedQ.filter (· ≠ id)
           acceptedQ := if st = stAccepted then EntState.insertSortedNat id e.acceptedQ else e.acceptedQ }

theorem EntState.tallyOne_ok {now id : Nat} (h : e.tallyOne now id = .ok e') :
    ∃ po, find? e.orders id = some po ∧ po.status = stRaised ∧
      ((EntState.tallyDecision e.params now po = none ∧ e' = e) ∨
       ∃ st, EntState.tallyDecision e.params now po = some st ∧ e' = e.decided now id po st) := by
  unfold EntState.tallyOne at h
  split at h
  · cases h
  · rename_i po hf
    split at h
    · cases h
    · rename_i hst
      refine ⟨po, hf, Decidable.not_not.mp hst, ?_⟩
      split at h
      · rename_i hd
        cases h
        exact Or.inl ⟨hd, rfl⟩
      · rename_i st hd
        cases h
        refine Or.inr ⟨st, hd, ?_⟩
        unfold EntState.decided
        split <;> rfl

theorem EntState.tallyOne_succeeds {now id : Nat} {po : PO} (hf : find? e.orders id = some po) (hst : po.status = stRaised) :
    ∃ e', e.tallyOne now id = .ok e' := by
  unfold EntState.tallyOne
  simp only [hf, hst, ne_eq, not_true_eq_false, if_false]
  split <;> exact ⟨_, rfl⟩

theorem coinAdd_iff {a b c : Coin} : coinAdd a b = .ok c ↔
    a.denom = b.denom ∧ fitsInt256 (a.amt + b.amt) = true ∧ c = { a with amt := a.amt + b.amt } := by
  simp only [coinAdd, bind_eq_ok, pure_eq_ok, require_eq_ok, decide_eq_true_eq]
  exact ⟨fun ⟨_, h1, _, h2, h3⟩ => ⟨h1, h2, h3.symm⟩, fun ⟨h1, h2, h3⟩ => ⟨(), h1, (), h2, h3.symm⟩⟩

theorem coinSub_iff {a b c : Coin} : coinSub a b = .ok c ↔
    a.denom = b.denom ∧ 0 ≤ a.amt - b.amt ∧ c = { a with amt := a.amt - b.amt } := by
  simp only [coinSub, bind_eq_ok, pure_eq_ok, require_eq_ok, decide_eq_true_eq]
  exact ⟨fun ⟨_, h1, _, h2, h3⟩ => ⟨h1, h2, h3.symm⟩, fun ⟨h1, h2, h3⟩ => ⟨(), h1, (), h2, h3.symm⟩⟩

theorem EB.asPanic_iff {α : Type} {m : M α} {v : α} : EB.asPanic m = .ok v ↔ m = .ok v := by
  cases m with
  | ok a => simp [EB.asPanic]
  | error e => cases e <;> simp [EB.asPanic]

theorem EB.mintAndLock_iff {now : Int} {bl : Addr → Bool} {r : Addr} {c : Coin} : x.mintAndLock now bl r c = .ok x' ↔
    (c.amt = 0 ∧ x' = x) ∨
    (0 < c.amt ∧ validDenom c.denom = true ∧ bl r = false ∧
      ∃ b1 b2 b3, x.bank.mint Ment [c] = .ok b1 ∧ b1.sendCoins now Ment r [c] = .ok b2 ∧ b2.delegate now r Ment [c] = .ok b3 ∧
        (x.ent.lockedOf r).denom = c.denom ∧ fitsInt256 ((x.ent.lockedOf r).amt + c.amt) = true ∧
        x.ent.totalLocked.denom = c.denom ∧ fitsInt256 (x.ent.totalLocked.amt + c.amt) = true ∧
        x' = { ent := { x.ent with
                 locked := insert x.ent.locked r { x.ent.lockedOf r with amt := (x.ent.lockedOf r).amt + c.amt }
                 totalLocked := { x.ent.totalLocked with amt := x.ent.totalLocked.amt + c.amt } },
               bank := b3 }) := by
  unfold EB.mintAndLock
  split
  · rename_i h0
    constructor
    · intro h
      cases h
      exact Or.inl ⟨h0, rfl⟩
    · rintro (⟨_, rfl⟩ | ⟨hc, _⟩)
      · rfl
      · exact absurd h0 (Int.ne_of_gt hc)
  · rename_i h0
    simp only [bind_eq_ok, require_eq_ok, Bool.and_eq_true, decide_eq_true_eq, Bool.not_eq_true', EB.incrementLocked, pure_eq_ok,
      coinAdd_iff]
    constructor
    · rintro ⟨_, ⟨h1, hv⟩, b1, hb1, _, hbl, b2, hb2, b3, hb3, _, ⟨d1, f1, rfl⟩, _, ⟨d2, f2, rfl⟩, rfl⟩
      exact Or.inr ⟨Int.lt_iff_le_and_ne.mpr ⟨h1, Ne.symm h0⟩, hv, hbl, b1, b2, b3, hb1, hb2, hb3, d1, f1, d2, f2, rfl⟩
    · rintro (⟨hc, _⟩ | ⟨hc, hv, hbl, b1, b2, b3, hb1, hb2, hb3, d1, f1, d2, f2, rfl⟩)
      · exact absurd hc h0
      · exact ⟨(), ⟨Int.le_of_lt hc, hv⟩, b1, hb1, (), hbl, b2, hb2, b3, hb3, _, ⟨d1, f1, rfl⟩, _, ⟨d2, f2, rfl⟩, rfl⟩

def EntState.completed (e : EntState) (id : Nat) (po : PO) : EntState :=
  { e with orders := insert e.orders id { po with status := stCompleted }, acceptedQ := e.acceptedQ.filter (· ≠ id) }

theorem EB.completeOne_ok {now : Int} {bl : Addr → Bool} {id : Nat} (h : x.completeOne now bl id = .ok x') :
    ∃ po a, find? x.ent.orders id = some po ∧ po.status = stAccepted ∧ po.purchaser.decode = some a ∧
      ((po.amt = 0 ∧ x' = { x with ent := x.ent.completed id po }) ∨
       (po.amt ≠ 0 ∧ bl a = false ∧ (x.ent.lockedOf a).denom = po.denom ∧ x.ent.totalLocked.denom = po.denom ∧
        ∃ b1 b2 b3, x.bank.mint Ment [{ denom := po.denom, amt := po.amt }] = .ok b1 ∧
          b1.sendCoins now Ment a [{ denom := po.denom, amt := po.amt }] = .ok b2 ∧
          b2.delegate now a Ment [{ denom := po.denom, amt := po.amt }] = .ok b3 ∧
          x' = { ent := { x.ent.completed id po with
                   locked := insert x.ent.locked a { x.ent.lockedOf a with amt := (x.ent.lockedOf a).amt + po.amt }
                   totalLocked := { x.ent.totalLocked with amt := x.ent.totalLocked.amt + po.amt } },
                 bank := b3 })) := by
  unfold EB.completeOne at h
  split at h
  · cases h
  · rename_i po hf
    split at h
    · cases h
    · rename_i hst
      split at h
      · cases h
      · rename_i a ha
        -- `mintAndLock` (any error a panic) between marking the order and taking the id off the queue
        simp only [bind_eq_ok, pure_eq_ok, EB.asPanic_iff] at h
        obtain ⟨x2, h2, rfl⟩ := h
        refine ⟨po, a, hf, Decidable.not_not.mp hst, ha, ?_⟩
        rcases EB.mintAndLock_iff.mp h2 with ⟨h0, rfl⟩ | ⟨h0, _, hbl, b1, b2, b3, m1, m2, m3, d1, _, d2, _, rfl⟩
        · exact Or.inl ⟨h0, rfl⟩
        · exact Or.inr ⟨Int.ne_of_gt h0, hbl, d1, d2, b1, b2, b3, m1, m2, m3, rfl⟩

theorem EB.completeOne_succeeds {now : Int} {bl : Addr → Bool} {id : Nat} {po : PO} {a : Addr} {x2 : EB}
    (hf : find? x.ent.orders id = some po) (hst : po.status = stAccepted) (ha : po.purchaser.decode = some a)
    (hm : EB.mintAndLock { x with ent := { x.ent with orders := insert x.ent.orders id { po with status := stCompleted } } }
      now bl a { denom := po.denom, amt := po.amt } = .ok x2) :
    ∃ x', x.completeOne now bl id = .ok x' := by
  unfold EB.completeOne
  simp only [hf, hst, ne_eq, not_true_eq_false, if_false, ha, hm, EB.asPanic]
  exact ⟨_, rfl⟩

theorem EB.completeOne_ent {now : Int} {bl : Addr → Bool} {id : Nat} (h : x.completeOne now bl id = .ok x') :
    ∃ po a, find? x.ent.orders id = some po ∧ po.status = stAccepted ∧ po.purchaser.decode = some a ∧
      ∃ l t, x'.ent = { x.ent.completed id po with locked := l, totalLocked := t } := by
  obtain ⟨po, a, hf, hst, ha, ⟨_, rfl⟩ | ⟨_, _, _, _, _, _, _, _, _, _, rfl⟩⟩ := EB.completeOne_ok h <;>
    exact ⟨po, a, hf, hst, ha, _, _, rfl⟩

/-- the new locked record `l` and total `t` are the exact differences unless the decrement saturates -/
theorem EB.lockedToSpent_eq {a : Addr} {k : Coin} {x1 : EB} (h1 : x.decrementLocked a k = .ok x1)
    (h2 : x1.incrementSpent a k = .ok x') :
    ∃ l t, x' = { bank := x.bank, ent := { x.ent with
                    locked := insert x.ent.locked a l, totalLocked := t
                    spent := insert x.ent.spent a { x.ent.spentOf a with amt := (x.ent.spentOf a).amt + k.amt }
                    totalSpent := { x.ent.totalSpent with amt := x.ent.totalSpent.amt + k.amt } } } ∧
      ((Coins.safeSub (Coins.ofCoin (x.ent.lockedOf a)) (Coins.ofCoin k)).2 = false →
        (x.ent.lockedOf a).denom = k.denom ∧ l = { x.ent.lockedOf a with amt := (x.ent.lockedOf a).amt - k.amt }) ∧
      ((Coins.safeSub (Coins.ofCoin x.ent.totalLocked) (Coins.ofCoin k)).2 = false →
        x.ent.totalLocked.denom = k.denom ∧ t = { x.ent.totalLocked with amt := x.ent.totalLocked.amt - k.amt }) := by
  simp only [EB.decrementLocked, bind_eq_ok, pure_eq_ok] at h1
  obtain ⟨l, hl, t, ht, rfl⟩ := h1
  simp only [EB.incrementSpent, bind_eq_ok, pure_eq_ok, coinAdd_iff] at h2
  obtain ⟨_, ⟨_, _, rfl⟩, _, ⟨_, _, rfl⟩, rfl⟩ := h2
  refine ⟨l, t, rfl, fun hc => ?_, fun hc => ?_⟩
  · rw [hc, if_neg Bool.false_ne_true] at hl
    obtain ⟨hd, _, rfl⟩ := coinSub_iff.mp hl
    exact ⟨hd, rfl⟩
  · rw [hc, if_neg Bool.false_ne_true] at ht
    obtain ⟨hd, _, rfl⟩ := coinSub_iff.mp ht
    exact ⟨hd, rfl⟩

theorem EB.unlockForFees_ok {now : Int} {p : Addr} {fees : Coins} (h : x.unlockForFees now p fees = .ok x') :
    fees.any (·.denom = x.ent.params.denom) = true ∧
    (x' = x ∨ ∃ k amt bank x1, x.bank.undelegate now Ment p amt = .ok bank ∧
      EB.decrementLocked { x with bank := bank } p k = .ok x1 ∧ EB.incrementSpent x1 p k = .ok x' ∧
      let fee : Coin := { denom := x.ent.params.denom, amt := Coins.amountOf fees x.ent.params.denom }
      let neg := (Coins.safeSub (Coins.ofCoin (x.ent.lockedOf p)) [fee]).2
      ((neg = false ∧ k = fee ∧ amt = fees) ∨ (neg = true ∧ k = x.ent.lockedOf p ∧ amt = Coins.ofCoin (x.ent.lockedOf p)))) := by
  simp only [EB.unlockForFees, bind_eq_ok, require_eq_ok] at h
  obtain ⟨_, hany, h⟩ := h
  refine ⟨hany, ?_⟩
  split at h
  · rename_i hc
    simp only [bind_eq_ok] at h
    obtain ⟨bank, hund, x1, h1, h2⟩ := h
    exact Or.inr ⟨_, _, bank, x1, hund, h1, h2, Or.inl ⟨by simpa using hc, rfl, rfl⟩⟩
  · rename_i hc
    split at h
    · simp only [bind_eq_ok] at h
      obtain ⟨bank, hund, x1, h1, h2⟩ := h
      exact Or.inr ⟨_, _, bank, x1, hund, h1, h2, Or.inr ⟨by simpa using hc, rfl, rfl⟩⟩
    · simp only [pure_eq_ok] at h; exact Or.inl h.symm

end Mainchain
