import Mainchain.Lemmas.EntFrame
import Mainchain.Lemmas.Sort
import Mainchain.Lemmas.Num
/-
The purchase-order book of x/enterprise: the invariant of orders, queues and decisions, preserved by
every elementary step while the order-id counter has room (`EntQ`).
-/
namespace Mainchain
open AL

theorem mem_insertSortedNat (x y : Nat) (l : List Nat) : x ∈ EntState.insertSortedNat y l ↔ x = y ∨ x ∈ l := by
  induction l with
  | nil => simp [EntState.insertSortedNat]
  | cons z zs ih =>
    simp only [EntState.insertSortedNat]
    split
    · simp
    · split
      · rename_i _ he; subst he; simp
      · simp only [List.mem_cons, ih, or_left_comm]

theorem mem_foldl_insertSorted (l : List Nat) : ∀ (acc : List Nat) (x : Nat),
    x ∈ l.foldl (fun acc a => EntState.insertSortedNat a acc) acc ↔ x ∈ l ∨ x ∈ acc := by
  induction l with
  | nil => intro acc x; simp
  | cons a rest ih =>
    intro acc x
    rw [List.foldl_cons, ih, mem_insertSortedNat, List.mem_cons, or_assoc]
    exact or_left_comm

theorem asc_insertSortedNat (y : Nat) (l : List Nat) (h : Asc l) : Asc (EntState.insertSortedNat y l) := by
  unfold Asc at *
  induction l with
  | nil => exact List.pairwise_singleton _ _
  | cons z zs ih =>
    simp only [EntState.insertSortedNat]
    have hz := List.pairwise_cons.mp h
    split
    · rename_i hlt
      refine List.pairwise_cons.mpr ⟨fun a ha => ?_, h⟩
      rcases List.mem_cons.mp ha with rfl | hm
      · exact hlt
      · exact Nat.lt_trans hlt (hz.1 a hm)
    · split
      · exact h
      · rename_i hlt hne
        refine List.pairwise_cons.mpr ⟨fun a ha => ?_, ih hz.2⟩
        rcases (mem_insertSortedNat a y zs).mp ha with rfl | hm
        · exact Nat.lt_of_le_of_ne (Nat.le_of_not_lt hlt) (Ne.symm hne)
        · exact hz.1 a hm

structure QueueOf (st : Nat) (orders : List (Nat × PO)) (q : List Nat) : Prop where
  asc : Asc q
  mem : ∀ id, id ∈ q ↔ ∃ po, find? orders id = some po ∧ po.status = st

namespace QueueOf
variable {st id : Nat} {orders : List (Nat × PO)} {q q' : List Nat} {po po' : PO}

theorem mem_iff (h : QueueOf st orders q) (hf : find? orders id = some po) : id ∈ q ↔ po.status = st := by
  simp [h.mem, hf]

theorem not_mem (h : QueueOf st orders q) (hf : find? orders id = none) : id ∉ q := by
  simp [h.mem, hf]

theorem put (h : QueueOf st orders q) (ha : Asc q')
    (hm : ∀ x, x ∈ q' ↔ (x ≠ id ∧ x ∈ q) ∨ (x = id ∧ po'.status = st)) : QueueOf st (insert orders id po') q' := by
  refine ⟨ha, fun x => ?_⟩
  rw [hm, find_insert]
  by_cases hx : id = x
  · subst hx; simp
  · simp [hx, Ne.symm hx, h.mem x]

theorem insert (h : QueueOf st orders q) (hs : po'.status = st) :
    QueueOf st (insert orders id po') (EntState.insertSortedNat id q) :=
  h.put (asc_insertSortedNat _ _ h.asc) fun x => by
    rw [mem_insertSortedNat]; by_cases hx : x = id <;> simp [hx, hs]

theorem filter (h : QueueOf st orders q) (hs : po'.status ≠ st) :
    QueueOf st (AL.insert orders id po') (q.filter (· ≠ id)) :=
  h.put (asc_filter _ _ h.asc) fun x => by
    rw [List.mem_filter]; by_cases hx : x = id <;> simp [hx, hs]

theorem keep (h : QueueOf st orders q) (hs : id ∈ q ↔ po'.status = st) : QueueOf st (AL.insert orders id po') q :=
  h.put h.asc fun x => by by_cases hx : x = id <;> simp [hx, hs]

end QueueOf

def Decision.ok (d : Decision) : Prop := (∃ a, d.signer = AddrTok.canon a) ∧ validAcceptReject d.decision = true

structure BookInv (e : EntState) : Prop where
  nodup : NoDupKeys e.orders
  idKey : ∀ id po, find? e.orders id = some po → po.id = id
  fresh : ∀ id po, find? e.orders id = some po → id < e.nextId
  status : ∀ id po, find? e.orders id = some po → validPoStatus po.status = true
  rq : ∀ id, id ∈ e.raisedQ ↔ ∃ po, find? e.orders id = some po ∧ po.status = stRaised
  aq : ∀ id, id ∈ e.acceptedQ ↔ ∃ po, find? e.orders id = some po ∧ po.status = stAccepted
  rqAsc : Asc e.raisedQ
  aqAsc : Asc e.acceptedQ
  decs : ∀ id po, find? e.orders id = some po →
    (po.decisions.map (fun d => d.signer.decode)).Nodup ∧ ∀ d ∈ po.decisions, d.ok
  purchaser : ∀ id po, find? e.orders id = some po → ∃ a, po.purchaser.decode = some a
  amtPos : ∀ id po, find? e.orders id = some po → 0 < po.amt

/-- the clauses of `BookInv` about one stored order, when the id counter stands at `n` -/
structure OrderOK (n id : Nat) (po : PO) : Prop where
  idKey : po.id = id
  fresh : id < n
  status : validPoStatus po.status = true
  decs : (po.decisions.map (fun d => d.signer.decode)).Nodup ∧ ∀ d ∈ po.decisions, d.ok
  purchaser : ∃ a, po.purchaser.decode = some a
  amtPos : 0 < po.amt

namespace BookInv
variable {e e' : EntState}

theorem order (hi : BookInv e) {id : Nat} {po : PO} (hf : find? e.orders id = some po) : OrderOK e.nextId id po :=
  ⟨hi.idKey _ _ hf, hi.fresh _ _ hf, hi.status _ _ hf, hi.decs _ _ hf, hi.purchaser _ _ hf, hi.amtPos _ _ hf⟩

theorem raised (hi : BookInv e) : QueueOf stRaised e.orders e.raisedQ := ⟨hi.rqAsc, hi.rq⟩

theorem accepted (hi : BookInv e) : QueueOf stAccepted e.orders e.acceptedQ := ⟨hi.aqAsc, hi.aq⟩

theorem find_fresh (hi : BookInv e) : find? e.orders e.nextId = none := by
  cases h : find? e.orders e.nextId with
  | none => rfl
  | some po => exact absurd (hi.fresh _ _ h) (Nat.lt_irrefl _)

theorem of_eq (hi : BookInv e) (ho : e'.orders = e.orders) (hn : e'.nextId = e.nextId)
    (hr : e'.raisedQ = e.raisedQ) (ha : e'.acceptedQ = e.acceptedQ) : BookInv e' := by
  obtain ⟨h1, h2, h3, h4, h5, h6, h7, h8, h9, h10, h11⟩ := hi
  rw [← ho, ← hn, ← hr, ← ha] at *
  exact ⟨h1, h2, h3, h4, h5, h6, h7, h8, h9, h10, h11⟩

theorem put (hi : BookInv e) {id : Nat} {po' : PO} (ho : e'.orders = insert e.orders id po') (hn : e.nextId ≤ e'.nextId)
    (hpo : OrderOK e'.nextId id po') (hr : QueueOf stRaised e'.orders e'.raisedQ)
    (ha : QueueOf stAccepted e'.orders e'.acceptedQ) : BookInv e' := by
  have key : ∀ x p, find? e'.orders x = some p → OrderOK e'.nextId x p := by
    rw [ho]
    exact forall_find_insert _ id po' hpo fun x p _ hx => { hi.order hx with fresh := Nat.lt_of_lt_of_le (hi.fresh x p hx) hn }
  exact ⟨ho ▸ nodup_insert _ _ _ hi.nodup, fun x p h => (key x p h).idKey, fun x p h => (key x p h).fresh,
    fun x p h => (key x p h).status, hr.mem, ha.mem, hr.asc, ha.asc, fun x p h => (key x p h).decs,
    fun x p h => (key x p h).purchaser, fun x p h => (key x p h).amtPos⟩

end BookInv

/-- history assumption for the enterprise order book: the order-id counter is not about to wrap -/
def EntQ (s : State) : Prop := s.ent.nextId + 1 < two64

theorem entOp_bookInv {now : Nat} {e e' : EntState} (hq : e.nextId + 1 < two64) (hi : BookInv e) (h : EntOp now e e') :
    BookInv e' := by
  cases h with
  | raise p denom amt id h =>
    obtain ⟨acc, hacc, _, hamt, _, _, rfl⟩ := EntState.raise_ok h
    have hlt : e.nextId < addU64 e.nextId 1 := by rw [addU64_small _ _ hq]; exact Nat.lt_succ_self _
    exact hi.put rfl (Nat.le_of_lt hlt) ⟨rfl, hlt, rfl, ⟨List.nodup_nil, nofun⟩, ⟨acc, hacc⟩, hamt⟩
      (hi.raised.insert rfl) (hi.accepted.keep (iff_of_false (hi.accepted.not_mem hi.find_fresh) (by decide : stRaised ≠ stAccepted)))
  | decide id dec sg h =>
    obtain ⟨a, po, _, _, hf, hdec, hst, hnot, rfl⟩ := EntState.decide_ok h
    have ok := hi.order hf
    refine hi.put rfl (Nat.le_refl _) { ok with decs := ⟨?_, ?_⟩ }
      (hi.raised.keep ((hi.raised.mem_iff hf).trans (iff_of_true hst hst)))
      (hi.accepted.keep ((hi.accepted.mem_iff hf).trans (iff_of_eq rfl)))
    · -- the new signer address is none of the old ones: `alreadyDecided` was false
      simp only [List.map_append, List.map_cons, List.map_nil, AddrTok.canon, AddrTok.decode]
      refine List.nodup_append.mpr ⟨ok.decs.1, by simp, ?_⟩
      intro x hx y hy hc
      obtain ⟨d, hdm, hdd⟩ := List.mem_map.mp hx
      simp only [List.mem_singleton] at hy
      exact (EntState.alreadyDecided_false.mp hnot d hdm).2 (hdd.trans (hc.trans hy))
    · intro d hdm
      rcases List.mem_append.mp hdm with h1 | h1
      · exact ok.decs.2 d h1
      · rw [List.mem_singleton.mp h1]; exact ⟨⟨a, rfl⟩, hdec⟩
  | whitelist action addr sg h => obtain ⟨_, _, _, _, _, rfl | rfl⟩ := EntState.whitelistMsg_ok h <;> exact hi.of_eq rfl rfl rfl rfl
  | setParams p h => obtain ⟨_, rfl⟩ := EntState.setParams_ok h; exact hi.of_eq rfl rfl rfl rfl

theorem tallyOne_bookInv {e e' : EntState} {now id : Nat} (hi : BookInv e) (h : e.tallyOne now id = .ok e') : BookInv e' := by
  obtain ⟨po, hf, hst, ⟨_, rfl⟩ | ⟨st, hd, rfl⟩⟩ := EntState.tallyOne_ok h
  · exact hi
  · have ok := hi.order hf
    have hne : st ≠ stRaised := by rcases EntState.tallyDecision_some hd with rfl | ⟨rfl, _⟩ <;> decide
    refine hi.put rfl (Nat.le_refl _) { ok with status := by rcases EntState.tallyDecision_some hd with rfl | ⟨rfl, _⟩ <;> rfl }
      (hi.raised.filter hne) ?_
    show QueueOf stAccepted _ (if st = stAccepted then _ else _)
    split
    · rename_i hacc; exact hi.accepted.insert hacc
    · rename_i hacc
      exact hi.accepted.keep ((hi.accepted.mem_iff hf).trans (iff_of_false (by rw [hst]; decide) hacc))

theorem completeOne_bookInv {x x' : EB} {now : Int} {bl : Addr → Bool} {id : Nat} (hi : BookInv x.ent)
    (h : EB.completeOne x now bl id = .ok x') : BookInv x'.ent := by
  obtain ⟨po, a, hf, hst, _, l, t, he⟩ := EB.completeOne_ent h
  have ok := hi.order hf
  rw [he]
  exact hi.put rfl (Nat.le_refl _) { ok with status := rfl }
    (hi.raised.keep ((hi.raised.mem_iff hf).trans (iff_of_false (by rw [hst]; decide) (by decide : stCompleted ≠ stRaised))))
    (hi.accepted.filter (by decide : stCompleted ≠ stAccepted))

theorem bookInv_step {s s' : State} (hq : EntQ s) (hi : BookInv s.ent) (h : FineStep s s') : BookInv s'.ent := by
  cases fineStep_ent h with
  | same he => obtain ⟨_, hn, ho, hr, ha, _⟩ := EntState.book_eq_iff.mp he; exact hi.of_eq ho hn hr ha
  | op hop => exact entOp_bookInv hq hi hop
  | complete id x hx he => exact he ▸ completeOne_bookInv hi hx
  | tally id ht => exact tallyOne_bookInv hi ht

theorem bookInv_empty (e : EntState) (ho : e.orders = []) (hr : e.raisedQ = []) (ha : e.acceptedQ = []) : BookInv e := by
  constructor <;> simp [ho, hr, ha, NoDupKeys, keys, Asc]

theorem bookInv_init (g : GenCfg) : BookInv (initState g).ent := bookInv_empty _ rfl rfl rfl

theorem bookInv_reachable (g : GenCfg) (s : State) (h : FineReach g EntQ s) : BookInv s.ent :=
  fine_inv g EntQ (fun s => BookInv s.ent) (bookInv_init g) (fun _ _ => bookInv_step) s h

end Mainchain
