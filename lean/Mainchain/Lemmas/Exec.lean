import Mainchain.Model.Chain
import Mainchain.Lemmas.Signer
/-
The lifting: a reflexive–transitive relation that holds for every *leaf* message-server step holds for every message
(authz.exec nesting of any depth), every transaction, every governance execution.
-/
namespace Mainchain

def Msg.isLeaf : Msg → Bool
  | .authzExec .. => false
  | _ => true

theorem Msg.nest_induction {P : Msg → Prop} (leaf : ∀ m, m.isLeaf = true → P m)
    (exec : ∀ g msgs, (∀ m ∈ msgs, P m) → P (.authzExec g msgs)) (m : Msg) : P m := by
  induction m using Msg.rec (motive_2 := fun ms => ∀ m ∈ ms, P m) with
  | authzExec g msgs ih => exact exec g msgs ih
  | nil => rename_i h; cases h
  | cons m ms ihm ihms =>
    rename_i x hx
    rcases List.mem_cons.mp hx with rfl | h
    · exact ihm
    · exact ihms x h
  | _ => exact leaf _ rfl

theorem Outcome.ofErr_ne_ok (e : Err) : Outcome.ofErr e ≠ .ok := by
  cases e <;> exact Outcome.noConfusion

/-- `runTx` up to message execution, the same in all three modes -/
def preExec (order : List String) (mode : Mode) (s : State) (tx : Tx) : M State := do
  require (!tx.msgs.isEmpty) (sdkErr 18)
  Msg.validateBasicList s tx.msgs
  ante order mode s tx

def TxResult.ofErr (e : Err) : TxResult := { outcome := .ofErr e, code := errCode e }

theorem preExec_iff (order : List String) (mode : Mode) (s s1 : State) (tx : Tx) :
    preExec order mode s tx = .ok s1 ↔
      tx.msgs.isEmpty = false ∧ Msg.validateBasicList s tx.msgs = .ok () ∧ ante order mode s tx = .ok s1 := by
  simp only [preExec, bind_eq_ok, require_eq_ok, Bool.not_eq_true', exists_and_left, exists_const]
  exact ⟨fun ⟨h1, _, h2, h3⟩ => ⟨h1, h2, h3⟩, fun ⟨h1, h2, h3⟩ => ⟨h1, (), h2, h3⟩⟩

theorem preExec_ante {order : List String} {mode : Mode} {s s1 : State} {tx : Tx} (h : preExec order mode s tx = .ok s1) :
    ante order mode s tx = .ok s1 := ((preExec_iff ..).mp h).2.2

/-- the three modes of `runTx` differ in the mode the ante chain runs in and in what follows it (`k`) -/
theorem runTx_eq (order : List String) (mode : Mode) (s : State) (tx : Tx) (k : State → State × TxResult) :
    (if tx.msgs.isEmpty then (s, { outcome := .err, code := "sdk:18" }) else
      match Msg.validateBasicList s tx.msgs with
      | .error e => (s, { outcome := .ofErr e, code := errCode e })
      | .ok _ =>
        match ante order mode s tx with
        | .error e => (s, { outcome := .ofErr e, code := errCode e })
        | .ok s1 => k s1) =
    match preExec order mode s tx with
    | .error e => (s, .ofErr e)
    | .ok s1 => k s1 := by
  unfold preExec
  cases tx.msgs.isEmpty <;> cases Msg.validateBasicList s tx.msgs <;> cases ante order mode s tx <;> rfl

theorem checkTx_eq (order : List String) (s : State) (tx : Tx) :
    checkTx order s tx = match preExec order .check s tx with
      | .error e => (s, .ofErr e)
      | .ok s1 => (s1, { outcome := .ok, code := "0" }) := runTx_eq order .check s tx _

theorem recheckTx_eq (order : List String) (s : State) (tx : Tx) :
    recheckTx order s tx = match preExec order .recheck s tx with
      | .error e => (s, .ofErr e)
      | .ok s1 => (s1, { outcome := .ok, code := "0" }) := runTx_eq order .recheck s tx _

theorem deliverTx_eq (order : List String) (wall : Nat) (s : State) (tx : Tx) :
    deliverTx order wall s tx = match preExec order .deliver s tx with
      | .error e => (s, .ofErr e)
      | .ok s1 =>
        match runMsgs wall s1 tx.msgs with
        | .error e => (s1, .ofErr e)
        | .ok (s2, rs) => (s2, { outcome := .ok, code := "0", resps := rs }) := runTx_eq order .deliver s tx _

theorem checkTx_ok {order : List String} {s : State} {tx : Tx} (h : (checkTx order s tx).2.outcome = .ok) :
    ∃ s1, ante order .check s tx = .ok s1 := by
  rw [checkTx_eq] at h
  cases h1 : preExec order .check s tx with
  | error e => rw [h1] at h; exact absurd h (Outcome.ofErr_ne_ok e)
  | ok s1 => exact ⟨s1, preExec_ante h1⟩

theorem recheckTx_ok {order : List String} {s : State} {tx : Tx} (h : (recheckTx order s tx).2.outcome = .ok) :
    ∃ s1, ante order .recheck s tx = .ok s1 := by
  rw [recheckTx_eq] at h
  cases h1 : preExec order .recheck s tx with
  | error e => rw [h1] at h; exact absurd h (Outcome.ofErr_ne_ok e)
  | ok s1 => exact ⟨s1, preExec_ante h1⟩

theorem govExec_eq (wall : Nat) (s : State) (m : Msg) : govExec wall s m = govExecAll wall s [m] := by
  unfold govExec govExecAll runMsgs
  by_cases hs : m.signer = some Mgov
  · simp only [hs, ne_eq, not_true_eq_false, if_false, List.all_cons, List.all_nil, Bool.and_true, decide_true, if_true,
      List.foldlM_cons, List.foldlM_nil, List.nil_append]
    cases handle wall s m <;> rfl
  · simp only [hs, ne_eq, not_false_eq_true, if_true, List.all_cons, List.all_nil, Bool.and_true, decide_false,
      Bool.false_eq_true, if_false]

theorem govExecAll_failed {wall : Nat} {s : State} {msgs : List Msg} (h : (govExecAll wall s msgs).2 = false) :
    (govExecAll wall s msgs).1 = s := by
  unfold govExecAll at h ⊢
  split
  · split
    · simp only [*] at h; cases h
    · rfl
  · rfl

theorem runMsgs_error {wall : Nat} {s s1 : State} {pre post : List Msg} {m : Msg} {rs : List Resp} {e : Err}
    (hpre : runMsgs wall s pre = .ok (s1, rs)) (hm : handle wall s1 m = .error e) :
    runMsgs wall s (pre ++ m :: post) = .error e := by
  unfold runMsgs at hpre ⊢
  rw [List.foldlM_append, hpre]
  simp only [bind, Except.bind, List.foldlM_cons, hm]

/-! `I` : what holds of the state before every message; `A` : who may be the signer of a message that runs.  `A` passes
from an authz.exec to the messages it dispatches when grants are only given by `A`-addresses (`hgrant`). -/

section lift
variable (wall : Nat) (R : State → State → Prop) (I : State → Prop) (A : Addr → Prop)
variable (hrefl : ∀ s, R s s) (htrans : ∀ a b c, R a b → R b c → R a c)
variable (hgrant : ∀ s g e k, I s → (g, e, k) ∈ s.grants → A g)
variable (hleaf : ∀ s m s' r a, m.isLeaf = true → I s → m.signer = some a → A a → execMsg wall s m = .ok (s', r) →
    R s s' ∧ I s')

include hrefl htrans hgrant in
theorem dispatch_lift (ms : List Msg)
    (ih : ∀ m ∈ ms, ∀ s s' r a, I s → m.signer = some a → A a → execMsg wall s m = .ok (s', r) → R s s' ∧ I s')
    (grantee : Addr) (ha : A grantee) : ∀ s s', I s → dispatch wall grantee s ms = .ok s' → R s s' ∧ I s' := by
  induction ms with
  | nil =>
    intro s s' hi h
    simp only [dispatch, pure_eq_ok] at h
    exact h ▸ ⟨hrefl s, hi⟩
  | cons m ms ihms =>
    intro s s' hi h
    simp only [dispatch, bind_eq_ok, Msg.signerM_iff, require_eq_ok, Bool.or_eq_true, decide_eq_true_eq,
      List.contains_iff_mem] at h
    obtain ⟨granter, hgr, _, hauth, _, _, x, hx, hrest⟩ := h
    -- the message runs for its own signer: the grantee, or somebody who gave the grantee a grant
    have hA : A granter := hauth.elim (· ▸ ha) (hgrant s granter grantee m.kind hi)
    obtain ⟨h1, hi1⟩ := ih m List.mem_cons_self s x.1 x.2 granter hi hgr hA hx
    obtain ⟨h2, hi2⟩ := ihms (fun m hm => ih m (List.mem_cons_of_mem _ hm)) x.1 s' hi1 hrest
    exact ⟨htrans _ _ _ h1 h2, hi2⟩

include hrefl htrans hgrant hleaf

theorem exec_lift (m : Msg) : ∀ (s s' : State) (r : Resp) (a : Addr), I s → m.signer = some a → A a →
    execMsg wall s m = .ok (s', r) → R s s' ∧ I s' := by
  induction m using Msg.nest_induction with
  | leaf m hl => exact fun s s' r a => hleaf s m s' r a hl
  | exec g ms ih =>
    intro s s' r a hi hs ha h
    simp only [execMsg, bind_eq_ok, pure_eq_ok, Prod.mk.injEq, decodeM_eq_ok] at h
    obtain ⟨grantee, hg, s1, hd, rfl, _⟩ := h
    -- the wrapper's signer is the grantee
    rw [Msg.signer_eq, Msg.signerArg, hg] at hs
    cases hs
    exact dispatch_lift wall R I A hrefl htrans hgrant ms ih a ha s s1 hi hd

/-- the router validates first, and a validated message has a signer: the caller only says that it is in `A` -/
theorem handle_lift (m : Msg) (s s' : State) (r : Resp) (hi : I s) (hs : ∀ a, m.signer = some a → A a)
    (h : handle wall s m = .ok (s', r)) : R s s' ∧ I s' := by
  simp only [handle, bind_eq_ok] at h
  obtain ⟨_, hvb, h⟩ := h
  obtain ⟨a, ha⟩ := validateBasic_signer s m hvb
  exact exec_lift wall R I A hrefl htrans hgrant hleaf m s s' r a hi ha (hs a ha) h

theorem runMsgs_lift (msgs : List Msg) (s s' : State) (rs : List Resp) (hi : I s)
    (hs : ∀ m ∈ msgs, ∀ a, m.signer = some a → A a) (h : runMsgs wall s msgs = .ok (s', rs)) : R s s' ∧ I s' :=
  foldlM_rel (σ := State × List Resp) (fun a b => I a.1 → R a.1 b.1 ∧ I b.1) (fun _ hi => ⟨hrefl _, hi⟩)
    (fun _ _ _ h1 h2 hi => ⟨htrans _ _ _ (h1 hi).1 (h2 (h1 hi).2).1, (h2 (h1 hi).2).2⟩) _ msgs
    (fun acc m acc' hm hx hi => by
      simp only [bind_eq_ok, pure_eq_ok] at hx
      obtain ⟨x, hx, rfl⟩ := hx
      exact handle_lift wall R I A hrefl htrans hgrant hleaf m acc.1 x.1 x.2 hi (hs m hm) hx) (s, []) (s', rs) h hi

end lift

section rel
variable (wall : Nat) (R : State → State → Prop)
variable (hrefl : ∀ s, R s s) (htrans : ∀ a b c, R a b → R b c → R a c)
variable (hleaf : ∀ s m s' r, m.isLeaf = true → execMsg wall s m = .ok (s', r) → R s s')

include hrefl htrans hleaf in
theorem runMsgs_rel (msgs : List Msg) (s s' : State) (rs : List Resp)
    (h : runMsgs wall s msgs = .ok (s', rs)) : R s s' :=
  (runMsgs_lift wall R (fun _ => True) (fun _ => True) hrefl htrans (fun _ _ _ _ _ _ => trivial)
    (fun s m s' r _ hl _ _ _ h => ⟨hleaf s m s' r hl h, trivial⟩) msgs s s' rs trivial (fun _ _ _ _ => trivial) h).1

include hrefl htrans hleaf in
theorem govExecAll_rel (msgs : List Msg) (s : State) : R s (govExecAll wall s msgs).1 := by
  unfold govExecAll
  split
  · split
    · rename_i s' rs h
      exact runMsgs_rel wall R hrefl htrans hleaf msgs s s' rs h
    · exact hrefl s
  · exact hrefl s

include hrefl htrans hleaf in
theorem govExec_rel (m : Msg) (s : State) : R s (govExec wall s m).1 :=
  govExec_eq wall s m ▸ govExecAll_rel wall R hrefl htrans hleaf [m] s

end rel

theorem deliverTx_rel (wall : Nat) (R : State → State → Prop)
    (hrefl : ∀ s, R s s) (htrans : ∀ a b c, R a b → R b c → R a c)
    (hleaf : ∀ s m s' r, m.isLeaf = true → execMsg wall s m = .ok (s', r) → R s s')
    (order : List String)
    (hante : ∀ s tx s', ante order .deliver s tx = .ok s' → R s s')
    (s : State) (tx : Tx) : R s (deliverTx order wall s tx).1 := by
  cases h : preExec order .deliver s tx with
  | error e => simp only [deliverTx_eq, h]; exact hrefl s
  | ok s1 =>
    have h1 := hante s tx s1 (preExec_ante h)
    cases h2 : runMsgs wall s1 tx.msgs with
    | error e => simp only [deliverTx_eq, h, h2]; exact h1
    | ok x =>
      simp only [deliverTx_eq, h, h2]
      exact htrans _ _ _ h1 (runMsgs_rel wall R hrefl htrans hleaf tx.msgs s1 x.1 x.2 h2)

theorem checkTx_rel (R : State → State → Prop) (hrefl : ∀ s, R s s) (order : List String)
    (hante : ∀ s tx s', ante order .check s tx = .ok s' → R s s')
    (s : State) (tx : Tx) : R s (checkTx order s tx).1 := by
  cases h : preExec order .check s tx with
  | error e => simp only [checkTx_eq, h]; exact hrefl s
  | ok s1 => simp only [checkTx_eq, h]; exact hante s tx s1 (preExec_ante h)

end Mainchain
