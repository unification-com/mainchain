import Mainchain.Lemmas.Chain
import Mainchain.Lemmas.Num
/-
The WRKChain / BEACON fee decorators: the expected fee is the plain sum of the parameterised fees of
the top-level module operations.
-/
namespace Mainchain
open AL

def opFee (p : RegParams) (k : RegKind) : Msg → Int
  | .regReg k' .. => if k' = k then (p.feeReg : Int) else 0
  | .regRec k' .. => if k' = k then (p.feeRec : Int) else 0
  | .regBuy k' _ n _ => if k' = k then (p.feeBuy : Int) * (n : Int) else 0
  | _ => 0

def feeSum (p : RegParams) (k : RegKind) (msgs : List Msg) : Int := (msgs.map (opFee p k)).sum

/-- the parameters are `uint64` values (protobuf) -/
def RegParams.U64 (p : RegParams) : Prop := p.feeReg < two64 ∧ p.feeRec < two64 ∧ p.feeBuy < two64

/-- every storage-purchase message carries a `uint64` slot count (protobuf) -/
def Msg.U64 : Msg → Prop
  | .regBuy _ _ n _ => n < two64
  | _ => True

theorem newInt64Coin_ok {denom : String} {fee : Nat} {c : Coin} (hu : fee < two64) (h : newInt64Coin denom fee = .ok c) :
    c.denom = denom ∧ c.amt = fee := by
  simp only [newInt64Coin, bind_eq_ok, pure_eq_ok, require_eq_ok, decide_eq_true_eq] at h
  obtain ⟨_, _, _, hnn, rfl⟩ := h
  exact ⟨rfl, i64OfU64_nonneg fee hu hnn⟩

theorem addFee_spec {denom : String} {fee : Nat} {acc acc' : Coin} (hu : fee < two64) (hd : acc.denom = denom)
    (h : (do coinAdd acc (← newInt64Coin denom fee)) = .ok acc') : acc'.denom = denom ∧ acc'.amt = acc.amt + fee := by
  simp only [bind_eq_ok, coinAdd, pure_eq_ok] at h
  obtain ⟨c, hc, _, _, _, _, rfl⟩ := h
  exact ⟨hd, by rw [(newInt64Coin_ok hu hc).2]⟩

theorem msgFee_spec {r : RegState} {k : RegKind} {acc acc' : Coin} {m : Msg} (hbuy : 1 ≤ r.params.feeBuy) (hp : r.params.U64)
    (hm : m.U64) (hd : acc.denom = r.params.denom) (h : msgFee r k acc m = .ok acc') :
    acc'.denom = r.params.denom ∧ acc'.amt = acc.amt + opFee r.params k m := by
  have none : ∀ {f : Int}, Except.ok acc = (.ok acc' : M Coin) → f = 0 → acc'.denom = r.params.denom ∧ acc'.amt = acc.amt + f :=
    fun h hf => by cases h; exact ⟨hd, by omega⟩
  cases m with
  | regReg k' =>
    simp only [msgFee, opFee] at h ⊢
    split at h
    · rw [if_pos ‹_›]; exact addFee_spec hp.1 hd h
    · exact none h (if_neg ‹_›)
  | regRec k' =>
    simp only [msgFee, opFee] at h ⊢
    split at h
    · rw [if_pos ‹_›]; exact addFee_spec hp.2.1 hd h
    · exact none h (if_neg ‹_›)
  | regBuy k' id n o =>
    simp only [msgFee, opFee] at h ⊢
    split at h
    · rw [if_pos ‹_›]
      simp only [bind_eq_ok, coinAdd, pure_eq_ok, require_eq_ok, decide_eq_true_eq] at h
      obtain ⟨c, hc, _, hnn, _, _, _, _, rfl⟩ := h
      obtain ⟨_, ha⟩ := newInt64Coin_ok hp.2.2 hc
      refine ⟨hd, ?_⟩
      rw [ha] at hnn ⊢
      -- the product is non-negative and the fee positive, so the slot count is a non-negative `int64`
      rw [i64OfU64_nonneg n hm (Int.nonneg_of_mul_nonneg_right hnn (Int.ofNat_lt.mpr hbuy))]
    · exact none h (if_neg ‹_›)
  | _ => exact none h rfl

theorem expectedFee_spec {r : RegState} {k : RegKind} {msgs : List Msg} {e : Coin} (hbuy : 1 ≤ r.params.feeBuy) (hp : r.params.U64)
    (hm : ∀ m ∈ msgs, m.U64) (h : expectedFee r k msgs = .ok e) :
    e.amt = feeSum r.params k msgs := by
  simp only [expectedFee, bind_eq_ok] at h
  obtain ⟨z, hz, h⟩ := h
  obtain ⟨hzd, hza⟩ := newInt64Coin_ok (by decide) hz
  have key : ∀ (ms : List Msg) (acc acc' : Coin), (∀ m ∈ ms, m.U64) → acc.denom = r.params.denom →
      ms.foldlM (msgFee r k) acc = .ok acc' → acc'.denom = r.params.denom ∧ acc'.amt = acc.amt + feeSum r.params k ms := by
    intro ms
    induction ms with
    | nil => intro acc acc' _ hd h; cases h; exact ⟨hd, (Int.add_zero _).symm⟩
    | cons m ms ih =>
      intro acc acc' hu hd h
      simp only [List.foldlM_cons, bind_eq_ok] at h
      obtain ⟨a1, h1, h2⟩ := h
      obtain ⟨d1, e1⟩ := msgFee_spec hbuy hp (hu m List.mem_cons_self) hd h1
      obtain ⟨d2, e2⟩ := ih a1 acc' (fun x hx => hu x (List.mem_cons_of_mem _ hx)) d1 h2
      exact ⟨d2, by rw [e2, e1, Int.add_assoc]; rfl⟩
  exact (key msgs z e hm hzd h).2.trans (hza ▸ Int.zero_add _)

theorem checkFees_exact {r : RegState} {k : RegKind} {tx : Tx} (hbuy : 1 ≤ r.params.feeBuy) (hp : r.params.U64)
    (hm : ∀ m ∈ tx.msgs, m.U64) (h : checkFees r k tx = .ok ()) :
    Coins.amountOf tx.fee r.params.denom = feeSum r.params k tx.msgs := by
  simp only [checkFees, bind_eq_ok, require_eq_ok, Bool.not_eq_true', decide_eq_false_iff_not] at h
  obtain ⟨_, _, _, _, e, he, _, h1, h2⟩ := h
  have ha := expectedFee_spec hbuy hp hm he
  omega

theorem ante_runs_fee_decorator {k : RegKind} {mode : Mode} {s s' : State} {tx : Tx} (hk : tx.hasKind k = true)
    (h : ante Facts.anteOrder mode s tx = .ok s') :
    (mode ≠ .deliver → checkFees (s.reg k) k tx = .ok ()) ∧ checkPayerFunds s (s.reg k) tx = .ok () ∧
    checkMaxSlots (s.reg k) k tx = .ok () := by
  -- the repository's order: both fee decorators stand in front of the two decorators that change the state
  obtain ⟨b, hb⟩ := ante_runs_on_input ["SetUpContext", "ExtensionOptions", "ValidateBasic", "TxTimeoutHeight", "ValidateMemo",
    "ConsumeGasForTxSize", "CorrectWrkChainFee", "CorrectBeaconFee"] ["CheckLockedUnd", "DeductFee", "SetPubKey",
    "ValidateSigCount", "SigGasConsume", "SigVerification", "IncrementSequence", "RedundantRelay"]
    (match k with | .wrk => "CorrectWrkChainFee" | .bcn => "CorrectBeaconFee") (by cases k <;> simp) (by simp) (by simp) h
  have hb : feeDecorator k mode s tx = .ok b := by
    cases k
    · exact (anteStepM_ok hb).2.1 rfl
    · exact (anteStepM_ok hb).2.2.1 rfl
  simp only [feeDecorator, hk, Bool.not_true, Bool.false_eq_true, if_false, bind_eq_ok, pure_eq_ok] at hb
  obtain ⟨u1, h1, u2, h2, u3, h3, _⟩ := hb
  exact ⟨fun hm => by simpa [hm] using h1, h2, h3⟩

end Mainchain
