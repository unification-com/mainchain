import Mainchain.Lemmas.Chain
/-
Every state of every run from a genesis whose grants are given by accounts that may sign (`GenGrantsOK`) is reached from the
genesis state through *elementary* steps (one message-server operation, one
ante effect, one begin-block sub-step, a block-time advance): invariants are proved per elementary step, and history
assumptions are attached to its source state.  A leaf handler only ever runs for a message whose `GetSigners()[0]` may
sign (`MaySign`, `GrantsOK`), and such an address is never a blocked module account: no message runs for an escrow account.
-/
namespace Mainchain

/-- key holders, the gov module account, and the accounts beyond the module range (addresses that are not key-derived —
module-derived, group-policy, interchain accounts: they act only through authz grants present in the genesis; 2000… are the ids
`Model/Script` gives the driver's long addresses `L0`…) -/
def MaySign (a : Addr) : Prop := a < 1000 ∨ a = Mgov ∨ 2000 ≤ a

def GrantsOK (s : State) : Prop :=
  (∀ g e k, (g, e, k) ∈ s.grants → MaySign g) ∧ (∀ g e, (g, e) ∈ s.allowances → MaySign g)

def Msg.SignedOK (m : Msg) : Prop := ∃ a, m.signer = some a ∧ MaySign a

/-- the module accounts holding the Minter permission (regenerated from app.go on every run) -/
theorem minters_eq : (Facts.maccPerms.filter (fun e => e.2.contains "minter")).map (·.1) = ["enterprise", "transfer"] := by
  simp [Facts.maccPerms]

/-- `app.BlockedAddresses()` evaluated once on the regenerated permission table -/
theorem blockedAddrs_eq : blockedAddrs = [Mbond, Mdist, Ment, Mfee, Mnbond, Mstr, Mxfer] := by decide

theorem isBlocked_Mstr : isBlocked Mstr = true := by rw [isBlocked, blockedAddrs_eq]; decide
theorem isBlocked_Ment : isBlocked Ment = true := by rw [isBlocked, blockedAddrs_eq]; decide
theorem isBlocked_Mfee : isBlocked Mfee = true := by rw [isBlocked, blockedAddrs_eq]; decide

theorem send_to_blocked_rejected {wall : Nat} {s s' : State} {src dst : AddrTok} {b : Addr} {coins : Coins} {r : Resp}
    (hd : dst.decode = some b) (hb : isBlocked b = true) : execMsg wall s (.bankSend src dst coins) ≠ .ok (s', r) := by
  intro h
  cases execMsg_ok h with
  | bankSend _ hd' hbl _ => cases hd.symm.trans hd'; exact absurd (hb.symm.trans hbl) nofun

/-- the blocked addresses are module accounts other than gov (`a : Nat` because `omega` does not look through `Addr`) -/
theorem blocked_range (a : Nat) (h : isBlocked a = true) : 1000 ≤ a ∧ a ≤ 1007 ∧ a ≠ 1004 := by
  simp only [isBlocked, blockedAddrs_eq, List.contains_eq_mem, List.mem_cons, List.not_mem_nil, or_false, decide_eq_true_eq] at h
  rcases h with rfl | rfl | rfl | rfl | rfl | rfl | rfl <;> decide

theorem maySign_not_blocked (a : Nat) (h : MaySign a) : isBlocked a = false := by
  cases hb : isBlocked a with
  | false => rfl
  | true =>
    have := blocked_range a hb
    have h : a < 1000 ∨ a = 1004 ∨ 2000 ≤ a := h
    omega

theorem maySign_ne_of_blocked {a b : Addr} (h : MaySign a) (hb : isBlocked b = true) : a ≠ b :=
  fun e => Bool.false_ne_true ((maySign_not_blocked a h).symm.trans (e ▸ hb))

theorem maySign_ne_Mstr (a : Addr) (h : MaySign a) : a ≠ Mstr := maySign_ne_of_blocked h isBlocked_Mstr

theorem maySign_ne_Ment (a : Addr) (h : MaySign a) : a ≠ Ment := maySign_ne_of_blocked h isBlocked_Ment

theorem mem_required {tx : Tx} {m : Msg} {a : Addr} (hm : m ∈ tx.msgs) (ha : m.signer = some a) : a ∈ tx.required := by
  -- the de-duplicating fold keeps what it has and takes in every address it meets
  have key : ∀ (l acc : List Addr), a ∈ l ∨ a ∈ acc →
      a ∈ l.foldl (fun acc a => if acc.contains a then acc else acc ++ [a]) acc := by
    intro l
    induction l with
    | nil => exact fun acc h => h.elim nofun id
    | cons x xs ih =>
      intro acc h
      rw [List.foldl_cons]
      refine ih _ (h.elim (fun h => (List.mem_cons.mp h).elim (fun e => .inr ?_) .inl) (fun h => .inr ?_))
      · subst e
        split
        · exact List.contains_iff_mem.mp ‹_›
        · exact List.mem_append_right _ (List.mem_singleton.mpr rfl)
      · split
        · exact h
        · exact List.mem_append_left _ h
  have hms : a ∈ tx.msgSigners := key _ [] (.inl (List.mem_filterMap.mpr ⟨m, hm, ha⟩))
  unfold Tx.required
  split
  · split
    · exact hms
    · exact List.mem_append_left _ hms
  · exact hms

theorem payer_mem_required {tx : Tx} {payer : Addr} (hp : tx.payer = some payer) : payer ∈ tx.required := by
  unfold Tx.payer at hp
  unfold Tx.required
  cases hfp : tx.feePayer with
  | some p =>
    rw [hfp] at hp
    cases hp
    dsimp only
    split
    · exact List.contains_iff_mem.mp ‹_›
    · exact List.mem_append_right _ (List.mem_singleton.mpr rfl)
  | none =>
    rw [hfp] at hp
    exact List.mem_of_mem_head? hp

/-- `hu` as `ante_setPubKey` gives it -/
theorem required_user {tx : Tx} {a : Addr} (hu : tx.required.all isUserAddr = true) (ha : a ∈ tx.required) : a < 1000 :=
  of_decide_eq_true (List.all_eq_true.mp hu a ha)

theorem payer_user {tx : Tx} {payer : Addr} (hu : tx.required.all isUserAddr = true) (hp : tx.payer = some payer) :
    payer < 1000 := required_user hu (payer_mem_required hp)

theorem feeSource_maySign {s : State} {tx : Tx} {payer src : Addr} (hu : tx.required.all isUserAddr = true) (hg : GrantsOK s)
    (hp : tx.payer = some payer) (hsrc : src = payer ∨ (src, payer) ∈ s.allowances) : MaySign src := by
  rcases hsrc with he | hal
  · exact he ▸ Or.inl (payer_user hu hp)
  · exact hg.2 src payer hal

/-- `hg`, `hsig` and `hu` are fields of the step, not an invariant proved beside it: a step case of `fine_inv` then has them
at hand without `GrantsOK` in its `Inv`.  `chainStep_fine` supplies them, once. -/
inductive FineStep (s s' : State) : Prop where
  | leaf (wall : Nat) (m : Msg) (r : Resp) (hl : m.isLeaf = true) (hg : GrantsOK s) (hsig : m.SignedOK)
      (h : execMsg wall s m = .ok (s', r))
  | ante (tx : Tx) (hu : tx.required.all isUserAddr = true) (hg : GrantsOK s) (h : AnteEffect s tx s')
  | time (t : Int) (ht : s.time ≤ t) (hs : s' = { s with time := t })
  | complete (id : Nat) (x : EB) (h : EB.completeOne { ent := s.ent, bank := s.bank } s.nowSec isBlocked id = .ok x)
      (hs : s' = { s with ent := x.ent, bank := x.bank })
  | tally (id : Nat) (e : EntState) (h : s.ent.tallyOne s.nowSecU id = .ok e) (hs : s' = { s with ent := e })

inductive FinePath : State → State → Prop where
  | refl (s : State) : FinePath s s
  | cons (a b c : State) (h : FineStep a b) (t : FinePath b c) : FinePath a c

theorem FinePath.trans {a b c : State} (h1 : FinePath a b) (h2 : FinePath b c) : FinePath a c := by
  induction h1 with
  | refl => exact h2
  | cons a b _ h _ ih => exact .cons a b c h (ih h2)

theorem FinePath.single {a b : State} (h : FineStep a b) : FinePath a b := .cons a b b h (.refl b)

/-- only authz and feegrant messages touch the two tables, and a new grant or allowance is given by the (authorised) signer -/
theorem leaf_grantsOK {wall : Nat} {s s' : State} {m : Msg} {r : Resp} (hl : m.isLeaf = true) (hg : GrantsOK s)
    (hsig : m.SignedOK) (h : execMsg wall s m = .ok (s', r)) : GrantsOK s' := by
  obtain ⟨a, ha, hpa⟩ := hsig
  rw [Msg.signer_eq] at ha
  cases execMsg_ok h with
  | authzGrant hga =>
    cases hga.symm.trans ha
    refine ⟨fun g' e' k' hmem => ?_, hg.2⟩
    dsimp only at hmem
    split at hmem
    · exact hg.1 g' e' k' hmem
    · rcases List.mem_append.mp hmem with hmem | hmem
      · exact hg.1 g' e' k' hmem
      · cases List.mem_singleton.mp hmem; exact hpa
  | authzRevoke => exact ⟨fun g' e' k' hmem => hg.1 g' e' k' (List.mem_filter.mp hmem).1, hg.2⟩
  | feegrantGrant hga =>
    cases hga.symm.trans ha
    refine ⟨hg.1, fun g' e' hmem => ?_⟩
    rcases List.mem_append.mp hmem with hmem | hmem
    · exact hg.2 g' e' hmem
    · cases List.mem_singleton.mp hmem; exact hpa
  | authzExec => cases hl
  | regReg | regRec | regBuy | regParams => cases ‹RegKind› <;> exact hg
  | _ => exact hg

theorem FineStep.grantsOK {s s' : State} (h : FineStep s s') (hg : GrantsOK s) : GrantsOK s' := by
  cases h with
  | leaf _ _ _ hl hg hsig h => exact leaf_grantsOK hl hg hsig h
  | ante tx _ _ he => cases he <;> subst_vars <;> exact hg
  | time _ _ hs | complete _ _ _ hs | tally _ _ _ hs => subst hs; exact hg

theorem FinePath.grantsOK {a b : State} (hp : FinePath a b) (hg : GrantsOK a) : GrantsOK b := by
  induction hp with
  | refl => exact hg
  | cons _ _ _ h _ ih => exact ih (h.grantsOK hg)

def FineG (a b : State) : Prop := FinePath a b

theorem ante_fine {mode : Mode} {s s1 : State} {tx : Tx} (hg : GrantsOK s) (h : ante Facts.anteOrder mode s tx = .ok s1) :
    FinePath s s1 :=
  ante_rel (fun a b => GrantsOK a → FinePath a b) (fun a _ => .refl a)
    (fun _ _ _ h1 h2 hg => (h1 hg).trans (h2 ((h1 hg).grantsOK hg)))
    (fun _ _ he hg => .single (.ante tx (ante_setPubKey h).2 hg he)) h hg

theorem runMsgs_fine {wall : Nat} {msgs : List Msg} {s s' : State} {rs : List Resp} (hg : GrantsOK s)
    (hs : ∀ m ∈ msgs, ∀ a, m.signer = some a → MaySign a) (h : runMsgs wall s msgs = .ok (s', rs)) : FinePath s s' :=
  (runMsgs_lift wall FinePath GrantsOK MaySign .refl (fun _ _ _ => FinePath.trans) (fun _ g e k hg => hg.1 g e k)
    (fun _ m _ r a hl hg hs ha h =>
      have st := FineStep.leaf wall m r hl hg ⟨a, hs, ha⟩ h
      ⟨.single st, st.grantsOK hg⟩) msgs s s' rs hg hs h).1

theorem deliverTx_fine (wall : Nat) (s : State) (tx : Tx) (hg : GrantsOK s) :
    FinePath s (deliverTx Facts.anteOrder wall s tx).1 := by
  cases h : preExec Facts.anteOrder .deliver s tx with
  | error e => simp only [deliverTx_eq, h]; exact .refl _
  | ok s1 =>
    have h1 := preExec_ante h
    have hp1 := ante_fine hg h1
    cases h2 : runMsgs wall s1 tx.msgs with
    | error e => simp only [deliverTx_eq, h, h2]; exact hp1
    | ok x =>
      simp only [deliverTx_eq, h, h2]
      -- the signers of the top-level messages are required signers of the transaction, hence key holders
      exact hp1.trans (runMsgs_fine (hp1.grantsOK hg)
        (fun m hm a ha => .inl (required_user (ante_setPubKey h1).2 (mem_required hm ha))) h2)

theorem govExecAll_fine (wall : Nat) (s : State) (msgs : List Msg) (hg : GrantsOK s) :
    FinePath s (govExecAll wall s msgs).1 := by
  unfold govExecAll
  split
  · rename_i hall
    split
    · rename_i h
      -- a proposal runs only if the gov module account is the signer of each of its messages
      exact runMsgs_fine hg (fun m hm a ha =>
        Option.some.inj (ha.symm.trans (of_decide_eq_true (List.all_eq_true.mp hall m hm))) ▸ .inr (.inl rfl)) h
    · exact .refl _
  · exact .refl _

theorem processAccepted_fine {s : State} {x : EB}
    (h : EB.processAccepted { ent := s.ent, bank := s.bank } s.nowSec isBlocked = .ok x) :
    FinePath s { s with ent := x.ent, bank := x.bank } :=
  foldlM_rel (fun (a b : EB) => FinePath { s with ent := a.ent, bank := a.bank } { s with ent := b.ent, bank := b.bank })
    (fun _ => .refl _) (fun _ _ _ => FinePath.trans) _ _ (fun _ id b _ hb => .single (.complete id b hb rfl)) _ x h

theorem tally_fine {s : State} {e : EntState} (h : s.ent.tally s.nowSecU = .ok e) : FinePath s { s with ent := e } :=
  foldlM_rel (fun (a b : EntState) => FinePath { s with ent := a } { s with ent := b })
    (fun _ => .refl _) (fun _ _ _ => FinePath.trans) _ _ (fun _ id b _ hb => .single (.tally id b hb rfl)) _ e h

theorem beginStep_fine {s s' : State} {name : String} (h : beginStep s name = .ok s') : FinePath s s' := by
  unfold beginStep at h
  split at h
  · simp only [bind_eq_ok, pure_eq_ok] at h
    obtain ⟨x, hx, rfl⟩ := h
    exact processAccepted_fine hx
  · simp only [bind_eq_ok, pure_eq_ok] at h
    obtain ⟨e, he, rfl⟩ := h
    exact tally_fine he
  · cases h

theorem beginBlock_fine {steps : List String} {s s' : State} (h : beginBlock steps s = .ok s') : FinePath s s' :=
  foldlM_rel FinePath .refl (fun _ _ _ => FinePath.trans) beginStep steps (fun _ _ _ _ hb => beginStep_fine hb) s s' h

theorem chainStep_fine (s s' : State) (h : ChainStep s s') (hg : GrantsOK s) : FinePath s s' ∧ GrantsOK s' := by
  suffices hp : FinePath s s' from ⟨hp, hp.grantsOK hg⟩
  cases h with
  | begin t ht h => exact .cons _ _ _ (.time t ht rfl) (beginBlock_fine h)
  | deliver wall tx hs => exact hs ▸ deliverTx_fine wall s tx hg
  | check tx hs =>
    subst hs
    cases h : preExec Facts.anteOrder .check s tx with
    | error e => simp only [checkTx_eq, h]; exact .refl _
    | ok s1 => simp only [checkTx_eq, h]; exact ante_fine hg (preExec_ante h)
  | recheck tx hs =>
    subst hs
    cases h : preExec Facts.anteOrder .recheck s tx with
    | error e => simp only [recheckTx_eq, h]; exact .refl _
    | ok s1 => simp only [recheckTx_eq, h]; exact ante_fine hg (preExec_ante h)
  | gov wall m hs => exact hs ▸ govExec_eq wall s m ▸ govExecAll_fine wall s [m] hg
  | govAll wall msgs hs => exact hs ▸ govExecAll_fine wall s msgs hg

/-- `Q` is asked of the source state of every step, not of the state reached: a theorem about `s` that needs `Q s` takes it as a
premise of its own beside `FineReach g Q s`. -/
inductive FineReach (g : GenCfg) (Q : State → Prop) : State → Prop where
  | init : FineReach g Q (initState g)
  | step (s s' : State) (hr : FineReach g Q s) (hq : Q s) (hs : FineStep s s') : FineReach g Q s'

theorem fine_inv (g : GenCfg) (Q Inv : State → Prop) (hinit : Inv (initState g))
    (hstep : ∀ s s', Q s → Inv s → FineStep s s' → Inv s') : ∀ s, FineReach g Q s → Inv s := by
  intro s hr
  induction hr with
  | init => exact hinit
  | step s s' _ hq hs ih => exact hstep s s' hq ih hs

theorem FineReach.weaken {g : GenCfg} {Q Q' : State → Prop} (hqq : ∀ s, Q s → Q' s) {s : State}
    (h : FineReach g Q s) : FineReach g Q' s := by
  induction h with
  | init => exact .init
  | step s s' _ hq hs ih => exact .step s s' ih (hqq s hq) hs

/-- `FinePath` with `Q` at the source of every step, as `FineReach` has it (`FineReach.extend`) -/
inductive FinePathQ (Q : State → Prop) : State → State → Prop where
  | refl (s : State) : FinePathQ Q s s
  | cons (a b c : State) (hq : Q a) (h : FineStep a b) (t : FinePathQ Q b c) : FinePathQ Q a c

theorem FineReach.extend {g : GenCfg} {Q : State → Prop} {a b : State} (ha : FineReach g Q a)
    (hp : FinePathQ Q a b) : FineReach g Q b := by
  induction hp with
  | refl => exact ha
  | cons a b c hq h _ ih => exact ih (.step a b ha hq h)

theorem path_rel {g : GenCfg} {Q : State → Prop} (R : State → State → Prop)
    (hrefl : ∀ s, R s s) (htrans : ∀ a b c, R a b → R b c → R a c)
    (hstep : ∀ a b, FineReach g Q a → Q a → FineStep a b → R a b)
    {a b : State} (ha : FineReach g Q a) (hp : FinePathQ Q a b) : R a b := by
  induction hp with
  | refl s => exact hrefl s
  | cons a b c hq h _ ih => exact htrans _ _ _ (hstep a b ha hq h) (ih (.step a b ha hq h))

theorem fineReach_path {g : GenCfg} {a b : State} (hp : FinePath a b) :
    FineReach g (fun _ => True) a → FineReach g (fun _ => True) b := by
  induction hp with
  | refl => exact id
  | cons a b c hab _ ih => exact fun ha => ih (.step a b ha trivial hab)

/-- the grants of the genesis document are given by accounts that may act at all (never by a module account of the
application other than gov) -/
def GenGrantsOK (g : GenCfg) : Prop := ∀ ga ea k, (ga, ea, k) ∈ g.grants → MaySign ga

theorem reachable_fine (g : GenCfg) (hgg : GenGrantsOK g) (s : State) (h : Reachable g s) :
    FineReach g (fun _ => True) s ∧ GrantsOK s := by
  induction h with
  | init => exact ⟨.init, ⟨hgg, by simp [initState]⟩⟩
  | step s s' _ hs ih =>
    obtain ⟨hp, hg'⟩ := chainStep_fine s s' hs ih.2
    exact ⟨fineReach_path hp ih.1, hg'⟩

end Mainchain
