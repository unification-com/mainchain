import Mainchain.Model.Genesis
import Mainchain.Lemmas.EntBooks
/-
Export followed by `InitChain`: the checks made at import time (`balancesEqCoin`, `entInvariantOk`, `strInvariantOk`)
follow from the invariants of the exported state.
-/
namespace Mainchain
namespace Genesis
open AL Bank

theorem balancesEqCoin_of_pointwise (b : Bank) (a : Addr) (c : Coin)
    (h : ∀ d, (b.balOf a d : Int) = if d = c.denom then c.amt else 0) : balancesEqCoin b a c = true := by
  unfold balancesEqCoin
  rw [List.all_eq_true]
  intro d _
  exact decide_eq_true (h d)

theorem depositOf_eq (st : StreamState) (d : String) : depositOf st d = sumF (depIn d) st.streams :=
  foldr_map_eq_sumF (depIn d) st.streams

theorem strInvariantOk_of_backed (s : State) (h : ∀ d, (s.bank.balOf Mstr d : Int) = sumF (depIn d) s.str.streams) :
    strInvariantOk s = true := by
  unfold strInvariantOk
  rw [List.all_eq_true]
  intro d _
  rw [decide_eq_true_eq, depositOf_eq]
  exact h d

theorem entInvariantOk_of_books (D : String) (s : State) (hpd : s.ent.params.denom = D) (hnd : NoDupKeys s.ent.locked)
    (hok : ∀ a c, find? s.ent.locked a = some c → c.denom = D ∧ 0 ≤ c.amt) (htl : s.ent.totalLocked.denom = D)
    (hesc : ∀ d, (s.bank.balOf Ment d : Int) = if d = D then s.ent.totalLocked.amt else 0)
    (hsum : sumF coinAmt s.ent.locked = s.ent.totalLocked.amt) : entInvariantOk s = true := by
  unfold entInvariantOk
  simp only [Bool.and_eq_true, Bool.or_eq_true, decide_eq_true_eq, List.all_eq_true]
  refine ⟨⟨?_, ?_⟩, Or.inr ⟨by rw [htl, hpd], ((foldr_map_eq_sumF coinAmt _).trans hsum).symm⟩⟩
  · apply balancesEqCoin_of_pointwise
    intro d; rw [hesc d, htl]
  · intro x hx
    obtain ⟨k, c⟩ := x
    rw [hpd]; exact (hok k c (find_of_mem _ hnd k c hx)).1

theorem find_foldl_collect {ν : Type} (m : List (Nat × ν)) (l : List Nat) (acc : List (Nat × ν)) (x : Nat) :
    find? (l.foldl (collectStep m) acc) x =
      if x ∈ l then (find? m x).or (find? acc x) else find? acc x :=
  foldl_obs (collectStep m) (find? · x) x (find? m x).or
    (fun b => by cases find? m x <;> rfl)
    (fun s => by
      unfold collectStep
      cases find? m x with
      | none => rfl
      | some v => exact find_insert_eq _ _ _)
    (fun s a ha => by
      unfold collectStep
      cases find? m a with
      | none => rfl
      | some v => exact find_insert_ne _ _ _ _ ha) l acc

theorem mem_sortNat (xs : List Nat) (x : Nat) : x ∈ sortNat xs ↔ x ∈ xs := by
  unfold sortNat; exact mem_isort _ _

theorem importEnt_orders (e : EntState) (x : Nat) : find? (importEnt e).orders x = find? e.orders x := by
  show find? ((sortNat (keys e.orders)).foldl (collectStep e.orders) []) x = _
  rw [find_foldl_collect, find_nil, Option.or_none]
  split
  · rfl
  · rename_i hx; exact ((find_eq_none_iff _ _).mpr fun h => hx ((mem_sortNat _ _).mpr h)).symm

/-- the ids the import queues for status `st` are those of the orders caught in that status -/
theorem mem_filter_statusIs (e : EntState) (st id : Nat) :
    id ∈ (sortNat (keys e.orders)).filter (statusIs e st) ↔ ∃ po, find? e.orders id = some po ∧ po.status = st := by
  rw [List.mem_filter, mem_sortNat]
  unfold statusIs
  constructor
  · rintro ⟨_, h⟩
    cases hf : find? e.orders id with
    | none => rw [hf] at h; cases h
    | some po => rw [hf] at h; exact ⟨po, rfl, of_decide_eq_true h⟩
  · rintro ⟨po, hf, hst⟩
    rw [hf]; exact ⟨mem_keys_of_find _ _ _ hf, decide_eq_true hst⟩

theorem importEnt_observe (e : EntState) (hi : BookInv e) :
    (importEnt e).params = e.params ∧ (importEnt e).nextId = e.nextId ∧
    (∀ id, find? (importEnt e).orders id = find? e.orders id) ∧
    (∀ id, id ∈ (importEnt e).raisedQ ↔ id ∈ e.raisedQ) ∧ (∀ id, id ∈ (importEnt e).acceptedQ ↔ id ∈ e.acceptedQ) ∧
    (∀ a, a ∈ (importEnt e).whitelist ↔ a ∈ e.whitelist) ∧
    (importEnt e).locked = e.locked ∧ (importEnt e).spent = e.spent ∧
    (importEnt e).totalLocked = e.totalLocked ∧ (importEnt e).totalSpent = e.totalSpent := by
  exact ⟨rfl, rfl, importEnt_orders e, fun id => (mem_filter_statusIs e _ id).trans (hi.rq id).symm,
    fun id => (mem_filter_statusIs e _ id).trans (hi.aq id).symm,
    fun a => (mem_foldl_insertSorted _ _ a).trans (or_iff_left List.not_mem_nil), rfl, rfl, rfl, rfl⟩

end Genesis
end Mainchain
