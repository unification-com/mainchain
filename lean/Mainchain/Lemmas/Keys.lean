import Mainchain.Model.Keys
/-
The key codecs.  `u64be` is handled through its big-endian value `beVal`: round trip, injectivity, byte order = numeric order.
-/
namespace Mainchain
namespace Keys

theorem lexLt_cons (a b : Nat) (as bs : Bytes) :
    lexLt (a :: as) (b :: bs) = (decide (a < b) || (decide (a = b) && lexLt as bs)) := by
  simp only [lexLt]
  by_cases h1 : a < b
  · simp [h1]
  · by_cases h2 : a = b <;> simp [h1, h2]

theorem lexLt_iff_lt : ∀ (a b : Bytes), lexLt a b = true ↔ a < b
  | [], [] => ⟨nofun, nofun⟩
  | [], _ :: _ => ⟨fun _ => List.nil_lt_cons .., fun _ => rfl⟩
  | _ :: _, [] => ⟨nofun, nofun⟩
  | x :: xs, y :: ys => by
    rw [lexLt_cons, List.cons_lt_cons_iff, ← lexLt_iff_lt xs ys, Bool.or_eq_true, Bool.and_eq_true, decide_eq_true_eq,
      decide_eq_true_eq]

theorem lexLt_irrefl (a : Bytes) : lexLt a a = false :=
  Bool.eq_false_iff.mpr fun h => List.lt_irrefl a ((lexLt_iff_lt a a).mp h)

theorem lexLt_trans (a b c : Bytes) (h1 : lexLt a b = true) (h2 : lexLt b c = true) : lexLt a c = true :=
  (lexLt_iff_lt a c).mpr (List.lt_trans ((lexLt_iff_lt a b).mp h1) ((lexLt_iff_lt b c).mp h2))

theorem lexLt_asymm (a b : Bytes) (h : lexLt a b = true) : lexLt b a = false :=
  Bool.eq_false_iff.mpr fun h' => List.lt_asymm ((lexLt_iff_lt a b).mp h) ((lexLt_iff_lt b a).mp h')

theorem lexLt_total (a b : Bytes) : lexLt a b = true ∨ a = b ∨ lexLt b a = true := by
  rw [lexLt_iff_lt, lexLt_iff_lt, ← or_assoc, ← List.le_iff_lt_or_eq]
  -- on lists, `a ≤ b` is `¬ b < a`
  exact (Decidable.em (b < a)).symm

theorem lexLt_append_left (pre x y : Bytes) : lexLt (pre ++ x) (pre ++ y) = lexLt x y := by
  induction pre with
  | nil => rfl
  | cons c cs ih => simp [lexLt_cons, ih]

def beVal : Bytes → Nat
  | [] => 0
  | a :: as => a * 256 ^ as.length + beVal as

theorem lex2_lt_iff (a b x y P : Nat) (hx : x < P) (hy : y < P) : a * P + x < b * P + y ↔ a < b ∨ a = b ∧ x < y := by
  have lead : ∀ {c d u v : Nat}, c < d → u < P → c * P + u < d * P + v := fun {c d u v} h hu =>
    calc c * P + u < c * P + P := Nat.add_lt_add_left hu _
      _ = (c + 1) * P := (Nat.succ_mul c P).symm
      _ ≤ d * P := Nat.mul_le_mul_right P h
      _ ≤ d * P + v := Nat.le_add_right ..
  rcases Nat.lt_trichotomy a b with h | rfl | h
  · exact ⟨fun _ => Or.inl h, fun _ => lead h hx⟩
  · rw [Nat.add_lt_add_iff_left]
    exact ⟨fun h => Or.inr ⟨rfl, h⟩, fun h => h.elim (fun h => absurd h (Nat.lt_irrefl _)) And.right⟩
  · exact ⟨fun h' => absurd h' (Nat.lt_asymm (lead h hy)), fun h' => by omega⟩

theorem beVal_lt (as : Bytes) (h : ∀ b ∈ as, b < 256) : beVal as < 256 ^ as.length := by
  induction as with
  | nil => exact Nat.one_pos
  | cons a as ih =>
    rw [beVal, List.length_cons, Nat.pow_succ, Nat.mul_comm _ 256]
    exact (lex2_lt_iff a 256 _ 0 _ (ih fun b hb => h b (List.mem_cons_of_mem _ hb)) (Nat.pow_pos (by omega))).mpr
      (Or.inl (h a List.mem_cons_self))

theorem lexLt_iff_beVal (as bs : Bytes) (hl : as.length = bs.length)
    (ha : ∀ b ∈ as, b < 256) (hb : ∀ b ∈ bs, b < 256) : lexLt as bs = true ↔ beVal as < beVal bs := by
  induction as generalizing bs with
  | nil =>
    cases bs with
    | nil => exact ⟨nofun, fun h => absurd h (Nat.lt_irrefl _)⟩
    | cons b bs => cases hl
  | cons a as ih =>
    cases bs with
    | nil => cases hl
    | cons b bs =>
      have hl := Nat.succ.inj hl
      have ha' := fun x hx => ha x (List.mem_cons_of_mem _ hx)
      have hb' := fun x hx => hb x (List.mem_cons_of_mem _ hx)
      simp only [lexLt_cons, Bool.or_eq_true, Bool.and_eq_true, decide_eq_true_eq, beVal]
      rw [hl, lex2_lt_iff a b _ _ _ (hl ▸ beVal_lt as ha') (beVal_lt bs hb'), ih bs hl ha' hb']

theorem digit_step (n d : Nat) : n / d % 256 * d + n % d = n % (d * 256) := by
  rw [Nat.mod_mul, Nat.mul_comm, Nat.add_comm]

theorem beVal_u64be (n : Nat) (h : n < 18446744073709551616) : beVal (u64be n) = n := by
  -- the Horner sum of the eight digits telescopes, from the low byte up, to `n % 2^64`
  simp only [u64be, beVal, List.length_cons, List.length_nil, Nat.reducePow, Nat.reduceAdd, Nat.mul_one, Nat.add_zero,
    digit_step, Nat.reduceMul]
  exact Nat.mod_eq_of_lt h

theorem u64beDecode_eq_beVal (a b c d e f g h : Nat) :
    u64beDecode [a, b, c, d, e, f, g, h] = some (beVal [a, b, c, d, e, f, g, h]) := by
  simp only [u64beDecode, beVal, List.length_cons, List.length_nil, Nat.reducePow, Nat.reduceAdd, Nat.mul_one,
    Nat.add_zero, Nat.add_assoc]

theorem u64be_lt256 (n : Nat) : ∀ b ∈ u64be n, b < 256 := by
  intro b hb
  simp only [u64be, List.mem_cons, List.not_mem_nil, or_false] at hb
  rcases hb with rfl | rfl | rfl | rfl | rfl | rfl | rfl | rfl <;> exact Nat.mod_lt _ (by decide)

theorem u64be_inj (a b : Nat) (ha : a < 18446744073709551616) (hb : b < 18446744073709551616)
    (h : u64be a = u64be b) : a = b := by
  rw [← beVal_u64be a ha, ← beVal_u64be b hb, h]

theorem lexLt_u64be (a b : Nat) (ha : a < 18446744073709551616) (hb : b < 18446744073709551616) :
    lexLt (u64be a) (u64be b) = true ↔ a < b := by
  rw [lexLt_iff_beVal (u64be a) (u64be b) rfl (u64be_lt256 a) (u64be_lt256 b), beVal_u64be a ha, beVal_u64be b hb]

theorem isPrefix_append (q p x : Bytes) (h : q.length = p.length) : isPrefix q (p ++ x) = true ↔ q = p := by
  rw [isPrefix, decide_eq_true_eq, h, List.take_left' rfl]
  exact eq_comm

theorem lengthPrefix_eq (a : Bytes) (h0 : 0 < a.length) (h1 : a.length ≤ 255) : lengthPrefix a = some (a.length :: a) := by
  rw [lengthPrefix, if_neg (Nat.ne_of_gt h0), if_neg (Nat.not_lt.mpr h1)]

/-- the point of the length byte: a length-prefixed string continues another one only if they are equal -/
theorem isPrefix_lp (p : Nat) (a b x : Bytes) : isPrefix (p :: a.length :: a) (p :: b.length :: (b ++ x)) = true ↔ a = b := by
  rw [isPrefix, decide_eq_true_eq, List.length_cons, List.length_cons, List.take_succ_cons, List.take_succ_cons]
  constructor
  · intro e
    obtain ⟨hl, ht⟩ := List.cons.inj (List.cons.inj e).2
    rw [← hl, List.take_left] at ht
    exact ht.symm
  · intro e; rw [e, List.take_left]

/-- The next start stays written `start + len - 1 + 1`, the way `parseStreamKey` computes it from the returned end index, so
that consecutive reads chain without index arithmetic. -/
theorem parseLP_step (key : Bytes) (start len : Nat) (b c : Bytes) (hs : 1 ≤ start) (hl : start ≤ key.length)
    (h : key.drop start = b ++ c) (hb : b.length = len) :
    parseLP key start len = some (b, start + len - 1) ∧ key.drop (start + len - 1 + 1) = c ∧
      start + len - 1 + 1 ≤ key.length := by
  have hlen : start + len ≤ key.length := by
    have := congrArg List.length h
    rw [List.length_drop, List.length_append, hb] at this; omega
  rw [Nat.sub_add_cancel (Nat.le_trans hs (Nat.le_add_right start len))]
  refine ⟨?_, ?_, hlen⟩
  · rw [parseLP, if_neg (Nat.not_lt.mpr hlen), h, ← hb, List.take_left]
  · rw [← List.drop_drop, h, ← hb, List.drop_left]

theorem parseStreamKey_shape (p : Nat) (r s : Bytes) :
    parseStreamKey (p :: r.length :: (r ++ s.length :: s)) = some (r, s) := by
  obtain ⟨e1, d1, l1⟩ := parseLP_step (p :: r.length :: (r ++ s.length :: s)) 1 1 [r.length] _ (Nat.le_refl 1)
    (Nat.le_add_left ..) rfl rfl
  obtain ⟨e2, d2, l2⟩ := parseLP_step _ _ r.length r _ (Nat.le_add_left ..) l1 d1 rfl
  obtain ⟨e3, d3, l3⟩ := parseLP_step _ _ 1 [s.length] s (Nat.le_add_left ..) l2 d2 rfl
  obtain ⟨e4, _, l4⟩ := parseLP_step _ _ s.length s [] (Nat.le_add_left ..) l3 (d3.trans (List.append_nil s).symm) rfl
  simp only [parseStreamKey, e1, e2, e3, e4, Option.bind_eq_bind, Option.bind_some, List.head?_cons,
    if_neg (Nat.not_lt.mpr l4)]
  rfl

end Keys
end Mainchain
