import Mainchain.Model.Types
/-
`M = Except Err`.  `bind_eq_ok` and the `_eq_ok` lemmas of the primitives take apart, by `simp only […] at h`, a successful
`do` block in the linear `require` style of the model.
-/
namespace Mainchain

@[simp] theorem bind_eq_ok {α β : Type} (x : M α) (f : α → M β) (b : β) :
    (x >>= f) = .ok b ↔ ∃ a, x = .ok a ∧ f a = .ok b := by
  cases x with
  | error e => simp [bind, Except.bind]
  | ok a => simp [bind, Except.bind]

@[simp] theorem pure_eq_ok {α : Type} (a b : α) : (pure a : M α) = .ok b ↔ a = b := by
  simp [pure, Except.pure]

@[simp] theorem require_eq_ok (c : Bool) (e : Err) (u : Unit) : require c e = .ok u ↔ c = true := by
  cases c <;> simp [require]

theorem require_true (e : Err) : require true e = .ok () := rfl

@[simp] theorem decodeM_eq_ok (t : AddrTok) (a : Addr) : t.decodeM = .ok a ↔ t.decode = some a := by
  unfold AddrTok.decodeM
  cases h : t.decode <;> simp

theorem bind_congr_ok {α β : Type} {x : M α} {f g : α → M β} (h : ∀ a, x = .ok a → f a = g a) :
    (x >>= f) = (x >>= g) := by
  cases x with
  | error e => rfl
  | ok a => exact h a rfl

theorem ok_ne_error {α : Type} (a : α) (e : Err) : (Except.ok a : M α) ≠ .error e := by
  intro h; cases h

theorem foldlM_rel {σ α : Type} (R : σ → σ → Prop) (hrefl : ∀ s, R s s) (htrans : ∀ a b c, R a b → R b c → R a c)
    (f : σ → α → M σ) (xs : List α) (hstep : ∀ s a s', a ∈ xs → f s a = .ok s' → R s s') :
    ∀ s s', xs.foldlM f s = .ok s' → R s s' := by
  induction xs with
  | nil => intro s s' h; simp only [List.foldlM_nil, pure_eq_ok] at h; exact h ▸ hrefl s
  | cons a as ih =>
    intro s s' h
    simp only [List.foldlM_cons, bind_eq_ok] at h
    obtain ⟨s1, h1, h2⟩ := h
    exact htrans _ _ _ (hstep s a s1 List.mem_cons_self h1)
      (ih (fun s a s' hm => hstep s a s' (List.mem_cons_of_mem _ hm)) s1 s' h2)

theorem foldlM_preserves {σ α : Type} (P : σ → Prop) (f : σ → α → M σ) (xs : List α)
    (hstep : ∀ s a s', P s → f s a = .ok s' → P s') (s s' : σ) (hp : P s) (h : xs.foldlM f s = .ok s') : P s' :=
  foldlM_rel (fun a b => P a → P b) (fun _ => id) (fun _ _ _ h1 h2 => h2 ∘ h1) f xs
    (fun s a s' _ h hp => hstep s a s' hp h) s s' h hp

/-- A pass over keys: `view s k` is the entry of the state under `k`, `I` an invariant the steps carry along, `R k old new`
what the step for `k` does to its own entry (it leaves the others alone).  No key comes twice, so `R` relates the entry at the
start to the entry at the end. -/
theorem foldlM_keyed {σ κ β : Type} (f : σ → κ → M σ) (I : σ → Prop) (view : σ → κ → β) (R : κ → β → β → Prop)
    (hstep : ∀ s k s', I s → f s k = .ok s' → I s' ∧ (∀ y, y ≠ k → view s' y = view s y) ∧ R k (view s k) (view s' k)) :
    ∀ (q : List κ) (s s' : σ), q.Nodup → I s → q.foldlM f s = .ok s' →
      I s' ∧ (∀ y, y ∉ q → view s' y = view s y) ∧ ∀ y ∈ q, R y (view s y) (view s' y) := by
  intro q
  induction q with
  | nil => intro s s' _ hI h; cases h; exact ⟨hI, fun _ _ => rfl, nofun⟩
  | cons k rest ih =>
    intro s s' hnd hI h
    simp only [List.foldlM_cons, bind_eq_ok] at h
    obtain ⟨s1, h1, h2⟩ := h
    have hn := List.nodup_cons.mp hnd
    obtain ⟨hI1, o1, r1⟩ := hstep s k s1 hI h1
    obtain ⟨hI', o2, r2⟩ := ih s1 s' hn.2 hI1 h2
    refine ⟨hI', fun y hy => ?_, fun y hy => ?_⟩
    · rw [o2 y (fun hm => hy (List.mem_cons_of_mem _ hm)), o1 y (fun he => hy (he ▸ List.mem_cons_self ..))]
    · rcases List.mem_cons.mp hy with rfl | hm
      · rw [o2 y hn.1]; exact r1
      · rw [← o1 y (fun he => hn.1 (he ▸ hm))]; exact r2 y hm

/-- `P rest s`: what the steps still to come need of `s` -/
theorem foldlM_succeeds {σ α : Type} (f : σ → α → M σ) (P : List α → σ → Prop)
    (hstep : ∀ a rest s, P (a :: rest) s → ∃ s', f s a = .ok s' ∧ P rest s') :
    ∀ (q : List α) (s : σ), P q s → ∃ s', q.foldlM f s = .ok s' := by
  intro q
  induction q with
  | nil => intro s _; exact ⟨s, rfl⟩
  | cons a rest ih =>
    intro s hp
    obtain ⟨s1, h1, hp1⟩ := hstep a rest s hp
    obtain ⟨s', h'⟩ := ih s1 hp1
    exact ⟨s', by simp only [List.foldlM_cons, bind, Except.bind, h1]; exact h'⟩

end Mainchain
