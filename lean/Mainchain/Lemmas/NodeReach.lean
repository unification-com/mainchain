import Mainchain.Lemmas.Chain
import Mainchain.Model.Script
/-
The interpreter that is compared with the real application (`Script.stepToks`, compiled into `mdriver`) only
ever puts a node into states of the transition system `Reachable`: the correspondence runs and the proofs talk about the
same machine (the theorems stated for `FineReach g Q` assume their history assumption `Q` along the run in addition).
-/
namespace Mainchain
open Script

structure NodeReach (g : GenCfg) (n : Node) : Prop where
  committed : Reachable g n.committed
  working : Reachable g n.working
  check : Reachable g n.check

theorem nodeReach_init (g : GenCfg) : NodeReach g (Node.init g) :=
  ⟨.init, .init, .init⟩

theorem nodeReach_begin {g : GenCfg} {n n' : Node} {t : Int} (h : NodeReach g n) (ht : n.committed.time ≤ t)
    (hb : n.begin t = .ok n') : NodeReach g n' := by
  simp only [Node.begin, bind_eq_ok, pure_eq_ok] at hb
  obtain ⟨s, hs, rfl⟩ := hb
  exact ⟨h.committed, .step _ _ h.committed (.begin t ht hs), h.check⟩

theorem nodeReach_deliver {g : GenCfg} {n : Node} (wall : Nat) (tx : Tx) (h : NodeReach g n) :
    NodeReach g (n.deliver wall tx).1 :=
  ⟨h.committed, .step _ _ h.working (.deliver wall tx rfl), h.check⟩

theorem nodeReach_checkTx {g : GenCfg} {n : Node} (tx : Tx) (h : NodeReach g n) : NodeReach g (n.checkTx tx).1 :=
  ⟨h.committed, h.working, .step _ _ h.check (.check tx rfl)⟩

theorem nodeReach_recheckTx {g : GenCfg} {n : Node} (tx : Tx) (h : NodeReach g n) : NodeReach g (n.recheckTx tx).1 :=
  ⟨h.committed, h.working, .step _ _ h.check (.recheck tx rfl)⟩

theorem govFold_reachable (g : GenCfg) (wall : Nat) (govs : List (List Msg)) :
    ∀ (acc : State × List Bool), Reachable g acc.1 →
      Reachable g (govs.foldl (fun (acc : State × List Bool) ms =>
        let (s', ok) := govExecAll wall acc.1 ms
        (s', acc.2 ++ [ok])) acc).1 := by
  induction govs with
  | nil => intro acc h; exact h
  | cons ms rest ih =>
    intro acc h
    simp only [List.foldl_cons]
    exact ih _ (.step _ _ h (.govAll wall ms rfl))

theorem nodeReach_endBlock {g : GenCfg} {n : Node} (wall : Nat) (govs : List (List Msg)) (h : NodeReach g n) :
    NodeReach g (n.endBlock wall govs).1 :=
  ⟨h.committed, govFold_reachable g wall govs (n.working, []) h.working, h.check⟩

theorem nodeReach_commit {g : GenCfg} {n : Node} (h : NodeReach g n) : NodeReach g n.commit :=
  ⟨h.working, h.working, h.working⟩

theorem nodeReach_crash {g : GenCfg} {n : Node} (h : NodeReach g n) : NodeReach g n.crash :=
  ⟨h.committed, h.committed, h.committed⟩

/-- Both are guarantees of the environment, and the generator of the harness respects them: at an `INIT` line the
configuration built by the `G` lines before it is `g`, and block times never go backwards (CometBFT's BFT time). -/
def LineOK (g : GenCfg) (it : Interp) (toks : List String) : Prop :=
  (toks = ["INIT"] → it.cfg = g) ∧
  (∀ sec ns n s nn, toks = ["BEGIN", sec, ns] → it.node = some n → sec.toInt? = some s → ns.toInt? = some nn →
      n.committed.time ≤ s * nsPerSec + nn)

def InterpReach (g : GenCfg) (it : Interp) : Prop := ∀ n, it.node = some n → NodeReach g n

theorem InterpReach.some {g : GenCfg} {it : Interp} {n : Node} (hn : NodeReach g n) (he : it.node = some n) :
    InterpReach g it := fun _ hm => Option.some.inj (he.symm.trans hm) ▸ hn

/-- `hx` : an `EXPORTIMPORT` whose import is not the identity (more than 20,000 records retained, see C15) continues
from the imported state, which is left out here; `exportImport … = .ok s` is exactly the conclusion of
`c15_export_import_identity`. -/
theorem stepToks_reach (g : GenCfg) (wall : Nat) (it : Interp) (line : String) (toks : List String)
    (h : InterpReach g it) (hl : LineOK g it toks)
    (hx : toks = ["EXPORTIMPORT"] → ∀ n s', it.node = some n →
      Genesis.exportImport Facts.initGenesisOrder n.committed = .ok s' → s' = n.committed) :
    InterpReach g (stepToks wall it line toks).1 := by
  unfold stepToks
  -- an empty line, and a `G` line (it writes the configuration, not the node)
  split
  · exact h
  · split <;> exact h
  · -- INIT
    exact .some (hl.1 rfl ▸ nodeReach_init g) rfl
  · -- BEGIN
    rename_i sec ns
    split
    · rename_i n s nn hn hs hnn
      split
      · rename_i n' hb
        exact .some (nodeReach_begin (h n hn) (hl.2 sec ns n s nn rfl hn hs hnn) hb) rfl
      · exact h
    · exact h
  · -- TX
    split
    · rename_i n k tx hn _
      exact .some (nodeReach_deliver wall tx (h n hn)) rfl
    · exact h
  · -- CHECK
    split
    · rename_i n k tx hn _
      exact .some (nodeReach_checkTx tx (h n hn)) rfl
    · exact h
  · -- RECHECK
    split
    · rename_i n k tx hn _
      exact .some (nodeReach_recheckTx tx (h n hn)) rfl
    · exact h
  · -- QUERY
    split
    · split <;> exact h
    · exact h
  · -- EXPORTIMPORT
    split
    · rename_i n hn
      split
      · rename_i s' he
        exact .some (hx rfl n s' hn he ▸ nodeReach_crash (h n hn)) rfl
      · exact h
    · exact h
  · -- CRASH
    split
    · rename_i n hn
      exact .some (nodeReach_crash (h n hn)) rfl
    · exact h
  · -- DIGEST
    split <;> exact h
  · -- GOVEXEC
    intro m hm
    apply h m
    rw [← hm]
    split <;> (split <;> rfl)
  · -- END
    split
    · rename_i n hn
      exact .some (nodeReach_endBlock wall _ (h n hn)) rfl
    · exact h
  · -- COMMIT
    split
    · rename_i n hn
      exact .some (nodeReach_commit (h n hn)) rfl
    · exact h
  · exact h

/-- the premises are satisfiable: an `INIT` line on the empty interpreter -/
example : InterpReach {} {} ∧ LineOK {} {} ["INIT"] ∧ (["INIT"] = ["EXPORTIMPORT"] → False) := by
  refine ⟨?_, ⟨fun _ => rfl, ?_⟩, by decide⟩
  · intro n hn; cases hn
  · intro sec ns n s nn ht; simp at ht

/-- the side conditions of `stepToks_reach` for a whole script, each evaluated where the line is executed -/
def ScriptOK (g : GenCfg) (wall : Nat) : Interp → List String → Prop
  | _, [] => True
  | it, l :: ls =>
    (it.halted = false →
      LineOK g it ((l.splitOn " ").filter (· ≠ "")) ∧
      ((l.splitOn " ").filter (· ≠ "") = ["EXPORTIMPORT"] → ∀ n s', it.node = some n →
        Genesis.exportImport Facts.initGenesisOrder n.committed = .ok s' → s' = n.committed)) ∧
    ScriptOK g wall (step wall it l).1 ls

theorem script_reach (g : GenCfg) (wall : Nat) (ls : List String) :
    ∀ (it : Interp), InterpReach g it → ScriptOK g wall it ls →
      InterpReach g (ls.foldl (fun (it : Interp) l => (step wall it l).1) it) := by
  induction ls with
  | nil => intro it h _; exact h
  | cons l ls ih =>
    intro it h hok
    rw [List.foldl_cons]
    refine ih _ ?_ hok.2
    unfold step
    split
    · exact h
    · rename_i hh
      have hf := hok.1 (Bool.eq_false_iff.mpr hh)
      exact stepToks_reach g wall it l _ h hf.1 hf.2

end Mainchain
