import Mainchain.Model.Types
/-
Go's fixed-width arithmetic (`Prim/Num`) where it does not wrap, and the 256-bit bound of `sdk.Int`.
-/
namespace Mainchain

theorem addU64_small (a b : Nat) (h : a + b < two64) : addU64 a b = a + b := Nat.mod_eq_of_lt h

/-- a sum that has wrapped is below its first summand -/
theorem addU64_no_wrap (l n : Nat) (hn : n < two64) (h : l ≤ addU64 l n) : addU64 l n = l + n := by
  by_cases hlt : l + n < two64
  · exact addU64_small l n hlt
  · have hge := Nat.le_of_not_lt hlt
    have h1 : addU64 l n ≤ l + n - two64 := by
      rw [show addU64 l n = (l + n - two64) % two64 from Nat.mod_eq_sub_mod hge]; exact Nat.mod_le _ _
    exact absurd (Nat.le_of_add_le_add_left (Nat.add_le_of_le_sub hge (Nat.le_trans h h1))) (Nat.not_le.mpr hn)

theorem subU64_succ (n : Nat) : subU64 (n + 1) 1 = n := if_pos (Nat.le_add_left 1 n)

theorem i64OfU64_nonneg (u : Nat) (hu : u < two64) (h : 0 ≤ i64OfU64 u) : i64OfU64 u = (u : Int) := by
  unfold i64OfU64 at h ⊢
  split
  · rfl
  · rw [if_neg ‹_›] at h
    exact absurd h (Int.not_le.mpr (Int.sub_neg_of_lt (Int.ofNat_lt.mpr hu)))

theorem wrapI64_small (x : Int) (h0 : 0 ≤ x) (h1 : x < (two63 : Nat)) : wrapI64 x = x := by
  have hm : x % ((two64 : Nat) : Int) = x := Int.emod_eq_of_lt h0 (Int.lt_trans h1 (by decide))
  unfold wrapI64
  simp only [hm, if_pos h1]

theorem satDur_eq (x : Int) (h0 : 0 ≤ x) (h1 : x ≤ maxI64) : satDur x = x := by
  unfold satDur
  rw [if_neg (Int.not_lt.mpr h1), if_neg (Int.not_lt.mpr (Int.le_trans (by decide) h0))]

-- written out because `omega` does not evaluate powers
theorem two255 : (2 : Int) ^ 255 = 57896044618658097711785492504343953926634992332820282019728792003956564819968 := by decide
theorem two254 : (2 : Int) ^ 254 = 28948022309329048855892746252171976963317496166410141009864396001978282409984 := by decide

theorem fits_of_small (n : Nat) (amt : Int) (h0 : 0 ≤ amt) (h1 : (n : Int) < 2 ^ 255) (h2 : amt < 2 ^ 255) :
    fitsInt256 ((n : Int) + amt) = true := by
  unfold fitsInt256 two256
  simp only [decide_eq_true_eq]
  have e2 : (2 : Nat) ^ 256 = 115792089237316195423570985008687907853269984665640564039457584007913129639936 := by decide
  rw [two255] at h1 h2
  rw [e2]
  omega

theorem fits_of_lt (x : Int) (h0 : 0 ≤ x) (h : x < 2 ^ 255) : fitsInt256 x = true :=
  Int.zero_add x ▸ fits_of_small 0 x h0 (Int.pow_pos (by decide)) h

end Mainchain
