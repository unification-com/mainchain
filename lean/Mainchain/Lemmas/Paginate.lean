import Mainchain.Lemmas.Keys
import Mainchain.Model.Paginate
import Mainchain.Lemmas.Num
/-
What the SDK pagination loops compute, in terms of the filtered list of a store section.  For paging by key only this is
needed of the two loops: every answer covers a part of the iteration list (`pageOf`).
-/
namespace Mainchain
namespace Paginate
open Keys

variable {α : Type}

def hitsOf (h : Bytes → α → Bool) (l : List (Bytes × α)) : List (Bytes × α) := l.filter (fun e => h e.1 e.2)

@[simp] theorem hitsOf_nil (h : Bytes → α → Bool) : hitsOf h [] = [] := rfl

theorem hitsOf_cons (h : Bytes → α → Bool) (e : Bytes × α) (l : List (Bytes × α)) :
    hitsOf h (e :: l) = if h e.1 e.2 then e :: hitsOf h l else hitsOf h l := List.filter_cons

theorem hitsOf_append (h : Bytes → α → Bool) (p q : List (Bytes × α)) : hitsOf h (p ++ q) = hitsOf h p ++ hitsOf h q :=
  List.filter_append ..

theorem offLoop_spec (h : Bytes → α → Bool) (o e : Nat) (ha : addU64 e 1 = e + 1) : ∀ (l : List (Bytes × α)) (n : Nat) (acc : List α), n ≤ e →
    offLoop (fun k v => some (h k v)) o e false l n acc [] =
      some { items := acc ++ ((((hitsOf h l).map (·.2)).take (e - n)).drop (o - n)),
             next := ((((hitsOf h l).map (·.1)).drop (e - n)).head?).getD [],
             total := 0 } := by
  intro l
  induction l with
  | nil => intro n acc _; simp [offLoop, hitsOf]
  | cons x l ih =>
    intro n acc hn
    obtain ⟨k, v⟩ := x
    cases hh : h k v with
    | true =>
      by_cases hne : n = e
      · subst hne
        simp only [offLoop, ha, hitsOf_cons, hh, if_true, Bool.true_and, Nat.lt_irrefl, decide_false, Bool.and_false,
          Bool.false_eq_true, if_false, Bool.not_false, List.map_cons, Nat.sub_self, List.take_zero, List.drop_nil, List.drop_zero,
          List.head?_cons, Option.getD_some, List.append_nil]
      · have hlt : n < e := Nat.lt_of_le_of_ne hn hne
        -- this hit and `b` more lie before the end of the window
        obtain ⟨b, hb⟩ : ∃ b, e - n = b + 1 := ⟨e - n - 1, (Nat.sub_add_cancel (Nat.sub_pos_of_lt hlt)).symm⟩
        have hb' : e - (n + 1) = b := by rw [Nat.sub_succ, hb]; rfl
        simp only [offLoop, ha, hitsOf_cons, hh, if_true, Bool.true_and, Nat.add_right_cancel_iff, hne, if_false, List.map_cons, hlt,
          decide_true, Bool.and_true]
        rw [ih (n + 1) _ hlt, hb, hb', List.take_succ_cons, List.drop_succ_cons]
        by_cases hon : o ≤ n
        · simp only [hon, decide_true, if_true, Nat.sub_eq_zero_of_le hon, Nat.sub_eq_zero_of_le (Nat.le_succ_of_le hon),
            List.drop_zero, List.append_assoc, List.singleton_append]
        · obtain ⟨c, hc⟩ : ∃ c, o - n = c + 1 :=
            ⟨o - n - 1, (Nat.sub_add_cancel (Nat.sub_pos_of_lt (Nat.lt_of_not_le hon))).symm⟩
          simp only [hon, decide_false, Bool.false_eq_true, if_false, hc, Nat.sub_succ, List.drop_succ_cons, Nat.pred_succ]
    | false =>
      have hne : ¬ (n = e + 1) := Nat.ne_of_lt (Nat.lt_succ_of_le hn)
      simp only [offLoop, ha, hitsOf_cons, hh, Bool.false_and, Bool.false_eq_true, if_false, hne]
      exact ih n acc hn

/-- the answer that covers the part `p` of an iteration list `p ++ q`: the hits of `p` (after what a loop had collected
before, `acc`), and the key of the first entry of `q` -/
def pageOf (h : Bytes → α → Bool) (p q : List (Bytes × α)) (acc : List α := []) : Res α :=
  { items := acc ++ (hitsOf h p).map (·.2), next := (q.head?.map (·.1)).getD [], total := 0 }

theorem keyLoop_covers (h : Bytes → α → Bool) (L : Nat) : ∀ (l : List (Bytes × α)) (n : Nat) (acc : List α),
    ∃ p q, l = p ++ q ∧ (n < L → l ≠ [] → p ≠ []) ∧
      keyLoop (fun k v => some (h k v)) L l n acc = some (pageOf h p q acc) := by
  intro l
  induction l with
  | nil => intro n acc; exact ⟨[], [], rfl, fun _ hl => hl, by simp [keyLoop, pageOf]⟩
  | cons x l ih =>
    intro n acc
    obtain ⟨k, v⟩ := x
    by_cases hnl : n = L
    · exact ⟨[], (k, v) :: l, rfl, fun hlt => absurd hnl (by omega), by simp [keyLoop, hnl, pageOf]⟩
    · cases hh : h k v with
      | true =>
        obtain ⟨p, q, hl, _, hr⟩ := ih (n + 1) (acc ++ [v])
        exact ⟨(k, v) :: p, q, by rw [hl]; rfl, fun _ _ => List.cons_ne_nil _ _, by
          simp only [keyLoop, hnl, if_false, hh, hr, pageOf, hitsOf_cons, if_true, List.map_cons, List.append_assoc,
            List.singleton_append]⟩
      | false =>
        obtain ⟨p, q, hl, _, hr⟩ := ih n acc
        exact ⟨(k, v) :: p, q, by rw [hl]; rfl, fun _ _ => List.cons_ne_nil _ _, by
          simp only [keyLoop, hnl, if_false, hh, hr, pageOf, hitsOf_cons, Bool.false_eq_true]⟩

/-- Offset 0 is the first request of a walk.  The second alternative is the `end` at which `end + 1` wraps to 0
(`query.MaxLimit`): there the comparison `numHits == 0` fires at once if the first entry is no hit (the answer covers nothing
and names that entry) and never again once a hit has been counted. -/
theorem offLoop_covers (h : Bytes → α → Bool) (e : Nat) : ∀ (l : List (Bytes × α)) (n : Nat) (acc : List α),
    (addU64 e 1 = e + 1 ∧ n ≤ e) ∨ (addU64 e 1 = 0 ∧ n + l.length ≤ e) →
    ∃ p q, l = p ++ q ∧ (addU64 e 1 = e + 1 → n < e → l ≠ [] → p ≠ []) ∧
      offLoop (fun k v => some (h k v)) 0 e false l n acc [] = some (pageOf h p q acc) := by
  intro l
  induction l with
  | nil => intro n acc _; exact ⟨[], [], rfl, fun _ _ hl => hl, by simp [offLoop, pageOf]⟩
  | cons x l ih =>
    intro n acc hc
    obtain ⟨k, v⟩ := x
    have stop : (addU64 e 1 = e + 1 → n < e → False) → ∀ acc : List α, ∃ p q, (k, v) :: l = p ++ q ∧
        (addU64 e 1 = e + 1 → n < e → (k, v) :: l ≠ [] → p ≠ []) ∧
        some { items := acc, next := k, total := 0 } = some (pageOf h p q acc) :=
      fun hno acc => ⟨[], (k, v) :: l, rfl, fun ha hlt _ => (hno ha hlt).elim, by simp [pageOf]⟩
    cases hh : h k v with
    | true =>
      by_cases hs : n + 1 = addU64 e 1
      · -- only without wrap, at `n = e`: the hit is not part of the page, its key is `next`
        have hne : ¬ n < e := by rcases hc with ⟨ha, _⟩ | ⟨ha, _⟩ <;> omega
        obtain ⟨p, q, hl, hp, hr⟩ := stop (fun ha hlt => hne hlt) acc
        exact ⟨p, q, hl, hp, by simp only [offLoop, hh, hs, hne, Nat.zero_le, decide_true, decide_false, Bool.and_false,
          Bool.false_eq_true, if_false, if_true, Bool.not_false, hr]⟩
      · have hlt : n < e := by
          rcases hc with ⟨ha, _⟩ | ⟨_, hb⟩
          · omega
          · simp only [List.length_cons] at hb; omega
        obtain ⟨p, q, hl, _, hr⟩ := ih (n + 1) (acc ++ [v]) (by
          rcases hc with ⟨ha, _⟩ | ⟨ha, hb⟩
          · exact Or.inl ⟨ha, hlt⟩
          · exact Or.inr ⟨ha, by simp only [List.length_cons] at hb; omega⟩)
        exact ⟨(k, v) :: p, q, by rw [hl]; rfl, fun _ _ _ => List.cons_ne_nil _ _, by
          simp only [offLoop, hh, hs, hlt, Nat.zero_le, decide_true, Bool.and_self, if_true, if_false, hr, pageOf, hitsOf_cons,
            List.map_cons, List.append_assoc, List.singleton_append]⟩
    | false =>
      by_cases hs : n = addU64 e 1
      · -- only with wrap, at `n = 0`
        obtain ⟨p, q, hl, hp, hr⟩ := stop (fun ha hlt => by rcases hc with ⟨_, _⟩ | ⟨hb, _⟩ <;> omega) acc
        exact ⟨p, q, hl, hp, by simp only [offLoop, hh, hs, Bool.false_and, Bool.false_eq_true, if_false, if_true,
          Bool.not_false, hr]⟩
      · obtain ⟨p, q, hl, _, hr⟩ := ih n acc (by
          rcases hc with hc | ⟨ha, hb⟩
          · exact Or.inl hc
          · exact Or.inr ⟨ha, by simp only [List.length_cons] at hb; omega⟩)
        exact ⟨(k, v) :: p, q, by rw [hl]; rfl, fun _ _ _ => List.cons_ne_nil _ _, by
          simp only [offLoop, hh, hs, Bool.false_and, Bool.false_eq_true, if_false, hr, pageOf, hitsOf_cons]⟩

structure Section (kvs : List (Bytes × α)) : Prop where
  asc : kvs.Pairwise (fun a b => lexLt a.1 b.1 = true)
  -- in a request the empty key means "no key" (start at the first entry), in an answer the empty `next` means the end: a walk
  -- could not resume at an entry with the empty key
  nonempty : ∀ e ∈ kvs, e.1 ≠ []

theorem Section.tail {e : Bytes × α} {l : List (Bytes × α)} (h : Section (e :: l)) : Section l :=
  ⟨(List.pairwise_cons.mp h.asc).2, fun x hx => h.nonempty x (List.mem_cons_of_mem _ hx)⟩

theorem filter_lt_key (a : List (Bytes × α)) (e : Bytes × α) (b : List (Bytes × α))
    (hs : (a ++ e :: b).Pairwise (fun x y => lexLt x.1 y.1 = true)) :
    (a ++ e :: b).filter (fun x => lexLt x.1 e.1) = a ∧ (a ++ e :: b).filter (fun x => !lexLt x.1 e.1) = e :: b := by
  obtain ⟨ha, hb⟩ := List.pairwise_append.mp hs |>.2
  have hlt : ∀ x ∈ a, lexLt x.1 e.1 = true := fun x hx => hb x hx e List.mem_cons_self
  have hge : ∀ x ∈ e :: b, lexLt x.1 e.1 = false := by
    intro x hx
    rcases List.mem_cons.mp hx with rfl | hx
    · exact lexLt_irrefl _
    · exact lexLt_asymm _ _ ((List.pairwise_cons.mp ha).1 x hx)
  rw [List.filter_append, List.filter_append]
  refine ⟨?_, ?_⟩
  · rw [List.filter_eq_self.mpr hlt, List.filter_eq_nil_iff.mpr (fun x hx => by simp [hge x hx]), List.append_nil]
  · rw [List.filter_eq_nil_iff.mpr (fun x hx => by simp [hlt x hx]), List.filter_eq_self.mpr (fun x hx => by simp [hge x hx]),
      List.nil_append]

def iterList (kvs : List (Bytes × α)) (reverse : Bool) : List (Bytes × α) := if reverse then kvs.reverse else kvs

theorem iter_nil (kvs : List (Bytes × α)) (reverse : Bool) : iter kvs [] reverse = some (iterList kvs reverse) := by
  cases reverse <;> simp [iter, iterList]

theorem iterList_nonempty {kvs : List (Bytes × α)} (hs : Section kvs) (reverse : Bool) : ∀ e ∈ iterList kvs reverse, e.1 ≠ [] := by
  intro e he
  exact hs.nonempty e (by cases reverse <;> simpa [iterList] using he)

/-- `hpre`: a reverse request must not name the top entry, see `iter_rev_top` -/
theorem iter_at (kvs : List (Bytes × α)) (hs : Section kvs) (reverse : Bool) (pre : List (Bytes × α)) (k : Bytes) (v : α)
    (post : List (Bytes × α)) (hk : iterList kvs reverse = pre ++ (k, v) :: post) (hpre : reverse = true → pre ≠ []) :
    iter kvs k reverse = some ((k, v) :: post) := by
  have hne : k ≠ [] := iterList_nonempty hs reverse (k, v) (hk ▸ List.mem_append_right _ List.mem_cons_self)
  cases reverse with
  | false =>
    obtain rfl : kvs = pre ++ (k, v) :: post := hk
    simp only [iter, Bool.not_false, if_true, hne, if_false, (filter_lt_key pre (k, v) post hs.asc).2]
  | true =>
    -- `pre` ends with the entry `e2` just above `k`
    obtain ⟨pre', e2, rfl⟩ : ∃ pre' e2, pre = pre' ++ [e2] :=
      ⟨_, _, (List.dropLast_concat_getLast (hpre rfl)).symm⟩
    obtain rfl : kvs = post.reverse ++ (k, v) :: e2 :: pre'.reverse := by
      rw [← List.reverse_reverse kvs, show kvs.reverse = _ from hk]
      simp
    simp only [iter, Bool.not_true, Bool.false_eq_true, if_false, hne, (filter_lt_key _ (k, v) _ hs.asc).2]
    rw [List.append_cons, (filter_lt_key _ e2 _ (List.append_cons .. ▸ hs.asc)).1, List.reverse_append, List.reverse_reverse]
    rfl

/-- a reverse request whose key is the key of the top entry makes the SDK call `Key()` on an exhausted iterator -/
theorem iter_rev_top (pre : List (Bytes × α)) (k : Bytes) (v : α) (hs : Section (pre ++ [(k, v)])) :
    iter (pre ++ [(k, v)]) k true = none := by
  have hk : k ≠ [] := hs.nonempty (k, v) (List.mem_append_right _ List.mem_cons_self)
  simp only [iter, Bool.not_true, Bool.false_eq_true, if_false, hk, (filter_lt_key pre (k, v) [] hs.asc).2]

theorem filtered_key (kvs : List (Bytes × α)) (hit : Bytes → α → Option Bool) (k : Bytes) (hk : k ≠ []) (L : Nat) (reverse : Bool) :
    filtered kvs { key := k, limit := L, reverse := reverse } hit =
      (iter kvs k reverse).bind (fun it => keyLoop hit (if L = 0 then defaultLimit else L) it 0 []) := by
  simp only [filtered, hk, ne_eq, not_false_eq_true, if_true, Nat.lt_irrefl, false_and, if_false]
  cases iter kvs k reverse <;> rfl

theorem filtered_offset (kvs : List (Bytes × α)) (hit : Bytes → α → Option Bool) (o L : Nat) (hL : L ≠ 0) (reverse : Bool) :
    filtered kvs { offset := o, limit := L, reverse := reverse } hit =
      offLoop hit o (addU64 o L) false (iterList kvs reverse) 0 [] [] := by
  simp only [filtered, hL, if_false, ne_eq, not_true_eq_false, and_false, iter_nil]

theorem first_page (kvs : List (Bytes × α)) (h : Bytes → α → Bool) (L : Nat) (hL : 1 ≤ L) (reverse : Bool)
    (hL' : L + 1 < two64 ∨ (L + 1 = two64 ∧ kvs.length < L)) :
    ∃ p q, iterList kvs reverse = p ++ q ∧ (L + 1 < two64 → q ≠ [] → p ≠ []) ∧
      filtered kvs { key := [], limit := L, reverse := reverse } (fun k v => some (h k v)) = some (pageOf h p q) := by
  have hadd : addU64 0 L = L := by rw [addU64_small 0 L (by omega), Nat.zero_add]
  have hlen : (iterList kvs reverse).length = kvs.length := by cases reverse <;> simp [iterList]
  have hc : (addU64 L 1 = L + 1 ∧ 0 ≤ L) ∨ (addU64 L 1 = 0 ∧ 0 + (iterList kvs reverse).length ≤ L) := by
    rcases hL' with h1 | ⟨h1, h2⟩
    · exact Or.inl ⟨Nat.mod_eq_of_lt h1, Nat.zero_le _⟩
    · exact Or.inr ⟨by rw [addU64, h1]; exact Nat.mod_self _, by omega⟩
  obtain ⟨p, q, hpq, hp, hr⟩ := offLoop_covers h L (iterList kvs reverse) 0 [] hc
  refine ⟨p, q, hpq, fun h1 hq hpn => ?_, ?_⟩
  · subst hpn
    exact hp (Nat.mod_eq_of_lt h1) hL (by rw [hpq]; exact hq) rfl
  · rw [filtered_offset kvs _ 0 L (by omega) reverse, hadd, hr]

theorem key_page (kvs : List (Bytes × α)) (hs : Section kvs) (h : Bytes → α → Bool) (L : Nat) (hL : 1 ≤ L) (reverse : Bool)
    (pre : List (Bytes × α)) (k : Bytes) (v : α) (post : List (Bytes × α))
    (hk : iterList kvs reverse = pre ++ (k, v) :: post) (hpre : reverse = true → pre ≠ []) :
    ∃ p q, (k, v) :: post = p ++ q ∧ p ≠ [] ∧
      filtered kvs { key := k, limit := L, reverse := reverse } (fun k v => some (h k v)) = some (pageOf h p q) := by
  have hne : k ≠ [] := iterList_nonempty hs reverse (k, v) (hk ▸ List.mem_append_right _ List.mem_cons_self)
  obtain ⟨p, q, hpq, hp, hr⟩ := keyLoop_covers h L ((k, v) :: post) 0 []
  refine ⟨p, q, hpq, hp (by omega) (List.cons_ne_nil _ _), ?_⟩
  rw [filtered_key kvs _ k hne L reverse, iter_at kvs hs reverse pre k v post hk hpre, Option.bind_some, if_neg (by omega), hr]

/-- the request that `hpre` of `key_page` excludes -/
theorem key_page_rev_top (kvs : List (Bytes × α)) (pre : List (Bytes × α)) (k : Bytes) (v : α)
    (hit : Bytes → α → Option Bool) (L : Nat) (hs : Section (pre ++ [(k, v)])) :
    filtered (pre ++ [(k, v)]) { key := k, limit := L, reverse := true } hit = none := by
  have hk : k ≠ [] := hs.nonempty (k, v) (List.mem_append_right _ List.mem_cons_self)
  rw [filtered_key _ hit k hk, iter_rev_top pre k v hs]; rfl

def fromFirstHit (h : Bytes → α → Bool) : List (Bytes × α) → List (Bytes × α)
  | [] => []
  | e :: l => if h e.1 e.2 then e :: l else fromFirstHit h l

theorem fromFirstHit_length_le (h : Bytes → α → Bool) : ∀ (l : List (Bytes × α)), (fromFirstHit h l).length ≤ l.length := by
  intro l
  induction l with
  | nil => exact Nat.le_refl 0
  | cons e l ih =>
    simp only [fromFirstHit]
    split
    · exact Nat.le_refl _
    · exact Nat.le_succ_of_le ih

end Paginate
end Mainchain
