import Mainchain.Lemmas.Paginate
/-
A client that pages through a store section by key sees every matching entry exactly once, in iteration order — for the page
limits the completeness theorems name (the reverse walk at limit 2^64 − 1 does fail).  One argument serves both directions: each
answer covers a part of the iteration list, so the concatenation of the answers is the hits of the concatenation of the parts
(`walk_complete`, about any function with the recursion of a walk).
-/
namespace Mainchain
namespace Paginate
open Keys

variable {α : Type}

/-- paging forward by key, following `next_key`.  The `Nat` argument bounds the number of requests; `kvs.length + 2` always
suffice, since every answer but the first covers at least one entry. -/
def walkKeys (kvs : List (Bytes × α)) (hit : Bytes → α → Option Bool) (L : Nat) : Nat → Bytes → Option (List α)
  | 0, _ => none
  | f + 1, key =>
    match filtered kvs { key := key, limit := L } hit with
    | none => none
    | some r => if r.next = [] then some r.items else (walkKeys kvs hit L f r.next).map (r.items ++ ·)

def walkKeysRev (kvs : List (Bytes × α)) (hit : Bytes → α → Option Bool) (L : Nat) : Nat → Bytes → Option (List α)
  | 0, _ => none
  | f + 1, key =>
    match filtered kvs { key := key, limit := L, reverse := true } hit with
    | none => none
    | some r => if r.next = [] then some r.items else (walkKeysRev kvs hit L f r.next).map (r.items ++ ·)

/-- `query.MaxLimit` = 2^64 − 1 -/
def maxLimit : Nat := 18446744073709551615

section walk
/- `w` is any walk over the answers `page key` (`walkKeys`, `walkKeysRev`), `it` the list the pages iterate over, `d` the
number of leading entries whose key a request must not carry (1 in reverse: the top entry). -/
variable {page : Bytes → Option (Res α)} {w : Nat → Bytes → Option (List α)}
  (hw : ∀ f key, w (f + 1) key =
    match page key with
    | none => none
    | some r => if r.next = [] then some r.items else (w f r.next).map (r.items ++ ·))
  (h : Bytes → α → Bool) (it : List (Bytes × α)) (hne : ∀ e ∈ it, e.1 ≠ []) (d : Nat)
  (hpage : ∀ pre k v post, it = pre ++ (k, v) :: post → d ≤ pre.length →
    ∃ p q, (k, v) :: post = p ++ q ∧ p ≠ [] ∧ page k = some (pageOf h p q))
include hw hne hpage

theorem walk_step (pre p q : List (Bytes × α)) (hsplit : it = pre ++ (p ++ q)) (hd : q ≠ [] → d ≤ (pre ++ p).length)
    (key : Bytes) (hp : page key = some (pageOf h p q)) :
    ∀ f, q.length ≤ f → w (f + 1) key = some ((hitsOf h (p ++ q)).map (·.2)) := by
  have last : ∀ f key p, page key = some (pageOf h p []) → w (f + 1) key = some ((hitsOf h (p ++ [])).map (·.2)) :=
    fun f key p hp => by rw [hw, hp, List.append_nil]; rfl
  intro f
  induction f generalizing pre p q key with
  | zero =>
    intro hf
    rw [List.length_eq_zero_iff.mp (Nat.le_zero.mp hf)] at hp ⊢
    exact last 0 key p hp
  | succ f ih =>
    intro hf
    cases q with
    | nil => exact last _ key p hp
    | cons e post =>
      rw [hw, hp]
      obtain ⟨k, v⟩ := e
      have hk : k ≠ [] := hne (k, v) (hsplit ▸ List.mem_append_right _ (List.mem_append_right _ List.mem_cons_self))
      obtain ⟨p', q', hpq, hp', hr⟩ := hpage (pre ++ p) k v post (by rw [hsplit, List.append_assoc]) (hd (List.cons_ne_nil _ _))
      have hlen : q'.length ≤ f := by
        have h1 := congrArg List.length hpq
        have h2 := List.length_pos_iff.mpr hp'
        rw [List.length_append, List.length_cons] at h1; rw [List.length_cons] at hf; omega
      simp only [pageOf, List.head?_cons, Option.map_some, Option.getD_some, hk, if_false]
      rw [ih (pre ++ p) p' q' (by rw [hsplit, hpq, List.append_assoc]) (fun _ => Nat.le_trans (hd (List.cons_ne_nil _ _))
        (by rw [List.length_append (as := pre ++ p)]; exact Nat.le_add_right ..)) k hr hlen, ← hpq, hitsOf_append, List.map_append]
      rfl

theorem walk_complete (p q : List (Bytes × α)) (hsplit : it = p ++ q) (hd : q ≠ [] → d ≤ p.length)
    (h0 : page [] = some (pageOf h p q)) : w (it.length + 2) [] = some ((hitsOf h it).map (·.2)) := by
  rw [hsplit]
  exact walk_step hw h it hne d hpage [] p q hsplit (by simpa using hd) [] h0 _ (by simp only [List.length_append]; omega)

end walk

/-- The second alternative of `hL'` is `query.MaxLimit`: the SDK's `end + 1` wraps to 0 and the first page may cover nothing,
yet the walk from its `next_key` returns everything. -/
theorem walkKeys_complete (kvs : List (Bytes × α)) (h : Bytes → α → Bool) (L : Nat) (hs : Section kvs) (hL : 1 ≤ L)
    (hL' : L + 1 < two64 ∨ (L + 1 = two64 ∧ kvs.length < L)) :
    walkKeys kvs (fun k v => some (h k v)) L (kvs.length + 2) [] = some ((hitsOf h kvs).map (·.2)) := by
  obtain ⟨p, q, hpq, _, h0⟩ := first_page kvs h L hL false hL'
  exact walk_complete (fun _ _ => rfl) h kvs (iterList_nonempty hs false) 0
    (fun pre k v post hk _ => key_page kvs hs h L hL false pre k v post hk (fun hf => by cases hf))
    p q hpq (fun _ => Nat.zero_le _) h0

/-- A request that carries the key of the top entry is an error of the SDK helper (`key_page_rev_top`); a walk never sends
one, because its first page covers at least that entry. -/
theorem walkKeysRev_complete (kvs : List (Bytes × α)) (h : Bytes → α → Bool) (L : Nat) (hs : Section kvs) (hL : 1 ≤ L)
    (hL' : L + 1 < two64) :
    walkKeysRev kvs (fun k v => some (h k v)) L (kvs.length + 2) [] = some ((hitsOf h kvs.reverse).map (·.2)) := by
  obtain ⟨p, q, hpq, hp, h0⟩ := first_page kvs h L hL true (Or.inl hL')
  have := walk_complete (w := walkKeysRev kvs (fun k v => some (h k v)) L) (fun _ _ => rfl) h kvs.reverse
    (iterList_nonempty hs true) 1
    (fun pre k v post hk hd => key_page kvs hs h L hL true pre k v post hk (fun _ hn => by rw [hn] at hd; simp at hd))
    p q hpq (fun hq => List.length_pos_iff.mpr (hp hL' hq)) h0
  rwa [List.length_reverse] at this

theorem offset_page (kvs : List (Bytes × α)) (h : Bytes → α → Bool) (o L : Nat) (reverse : Bool) (hL : 1 ≤ L)
    (hfit : o + L + 1 < two64) :
    (filtered kvs { offset := o, limit := L, reverse := reverse } (fun k v => some (h k v))).map (·.items) =
      some ((((hitsOf h (iterList kvs reverse)).map (·.2)).drop o).take L) := by
  have hadd : addU64 o L = o + L := addU64_small o L (Nat.lt_of_succ_lt hfit)
  have hadd1 : addU64 (o + L) 1 = o + L + 1 := addU64_small (o + L) 1 hfit
  rw [filtered_offset kvs _ o L (Nat.ne_of_gt hL) reverse, hadd, offLoop_spec h o (o + L) hadd1 _ 0 [] (Nat.zero_le _)]
  simp only [Option.map_some, List.nil_append, Nat.sub_zero, List.drop_take, Nat.add_sub_cancel_left]

theorem insertKV_perm (e : Bytes × α) (l : List (Bytes × α)) : (insertKV e l).Perm (e :: l) := by
  induction l with
  | nil => exact .refl _
  | cons f rest ih =>
    simp only [insertKV]
    split
    · exact .refl _
    · exact (ih.cons f).trans (.swap e f rest)

theorem insertKV_asc (e : Bytes × α) (l : List (Bytes × α)) (hl : l.Pairwise (fun a b => lexLt a.1 b.1 = true))
    (hne : ∀ x ∈ l, x.1 ≠ e.1) : (insertKV e l).Pairwise (fun a b => lexLt a.1 b.1 = true) := by
  induction l with
  | nil => exact List.pairwise_singleton _ _
  | cons f rest ih =>
    have hp := List.pairwise_cons.mp hl
    simp only [insertKV]
    split
    · rename_i hlt
      refine List.pairwise_cons.mpr ⟨fun x hx => ?_, hl⟩
      rcases List.mem_cons.mp hx with rfl | hm
      · exact hlt
      · exact lexLt_trans _ _ _ hlt (hp.1 x hm)
    · rename_i hnlt
      refine List.pairwise_cons.mpr ⟨fun x hx => ?_, ih hp.2 (fun x hx => hne x (List.mem_cons_of_mem _ hx))⟩
      rcases List.mem_cons.mp ((insertKV_perm e rest).mem_iff.mp hx) with rfl | hm
      · exact (lexLt_total f.1 x.1).resolve_right (fun h => h.elim (hne f List.mem_cons_self) hnlt)
      · exact hp.1 x hm

theorem sortKV_section (kvs : List (Bytes × α)) (hd : (kvs.map (·.1)).Nodup) (hne : ∀ e ∈ kvs, e.1 ≠ []) :
    Section (sortKV kvs) ∧ (sortKV kvs).Perm kvs := by
  have key : ∀ (l acc : List (Bytes × α)), ((l ++ acc).map (·.1)).Nodup → acc.Pairwise (fun a b => lexLt a.1 b.1 = true) →
      (l.foldl (fun acc e => insertKV e acc) acc).Pairwise (fun a b => lexLt a.1 b.1 = true) ∧
      (l.foldl (fun acc e => insertKV e acc) acc).Perm (l ++ acc) := by
    intro l
    induction l with
    | nil => intro acc _ ha; exact ⟨ha, .refl _⟩
    | cons e rest ih =>
      intro acc hd ha
      have hp : (rest ++ insertKV e acc).Perm (e :: rest ++ acc) :=
        ((insertKV_perm e acc).append_left rest).trans List.perm_middle
      have hfresh : ∀ y ∈ acc, y.1 ≠ e.1 := fun y hy h =>
        (List.nodup_cons.mp hd).1 (List.mem_map.mpr ⟨y, List.mem_append_right _ hy, h⟩)
      obtain ⟨p1, p2⟩ := ih (insertKV e acc) ((hp.map _).nodup_iff.mpr hd) (insertKV_asc e acc ha hfresh)
      exact ⟨p1, p2.trans hp⟩
  obtain ⟨p1, p2⟩ := key kvs [] (by simpa using hd) .nil
  rw [List.append_nil] at p2
  exact ⟨⟨p1, fun e he => hne e (p2.mem_iff.mp he)⟩, p2⟩

/-- The shape every list query instantiates: the records of `l`, told apart by `id` (a purchase-order id, a pair of addresses,
a denomination), are stored under `key`, injective on the ids that occur, with value `val`. -/
theorem walk_sortKV_map {β ι : Type} (l : List β) (id : β → ι) (key : β → Bytes) (val : β → α)
    (hnd : (l.map id).Nodup) (hinj : ∀ a ∈ l, ∀ b ∈ l, key a = key b → id a = id b) (hne : ∀ a ∈ l, key a ≠ [])
    (h : α → Bool) (L : Nat) (hL : 1 ≤ L) (hL' : L + 1 < two64) :
    ∃ pages, walkKeys (sortKV (l.map fun x => (key x, val x))) (fun _ v => some (h v)) L
        ((sortKV (l.map fun x => (key x, val x))).length + 2) [] = some pages ∧
      pages.Perm ((l.map val).filter h) := by
  have hkeys : ((l.map fun x => (key x, val x)).map (·.1)).Nodup := by
    rw [List.map_map]
    exact (List.pairwise_map.mp hnd).imp_of_mem (fun ha hb hab e => hab (hinj _ ha _ hb e)) |> List.pairwise_map.mpr
  obtain ⟨hsec, hperm⟩ := sortKV_section _ hkeys (fun e he => by
    obtain ⟨x, hx, rfl⟩ := List.mem_map.mp he; exact hne x hx)
  refine ⟨_, walkKeys_complete _ (fun _ v => h v) L hsec hL (Or.inl hL'), ?_⟩
  rw [List.filter_map]
  exact (hperm.filter (fun e => h e.2)).map (·.2) |>.trans (by rw [List.filter_map, List.map_map])

end Paginate
end Mainchain
