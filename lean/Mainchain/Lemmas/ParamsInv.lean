import Mainchain.Lemmas.Fine
import Mainchain.Lemmas.EntFrame
import Mainchain.Lemmas.RegistryReach
import Mainchain.Lemmas.StreamFrame
namespace Mainchain
open AL

structure ParamsValid (s : State) : Prop where
  ent : s.ent.params.validate = true
  wrk : s.wrk.params.validate = true
  bcn : s.bcn.params.validate = true
  str : streamParamsValid s.str.fee = true

theorem regOp_params {now wall : Nat} {a b : RegState} (h : RegOp now wall a b) (ha : a.params.validate = true) :
    b.params.validate = true := by
  cases h with
  | register mk nm gn ty o id h => obtain ⟨_, _, rfl, _⟩ := RegState.register_ok h; exact ha
  | record id key rc o k h => rw [(record_frame h).params]; exact ha
  | purchase id n o can h => obtain ⟨_, _, _, _, _, _, _, _, rfl, _⟩ := RegState.purchase_ok h; exact ha
  | setParams p h => obtain ⟨hv, rfl⟩ := RegState.setParams_ok h; exact hv

theorem streamOp_fee {now : Int} {a b : SB} (h : StreamOp now a b) : b.str.fee = a.str.fee := by
  have on {rT sT : AddrTok} : (∃ r s, rT.decode = some r ∧ sT.decode = some s ∧ OthersSame a b r s) → b.str.fee = a.str.fee :=
    fun ⟨_, _, _, _, hf⟩ => hf.1
  cases h with
  | create r s denom amt rate h => exact on ((streamMsg_frame a now isBlocked r s).1 _ _ _ _ h)
  | claim r s o h => exact on ((streamMsg_frame a now isBlocked r s).2.1 _ h)
  | topup r s denom amt d z h => exact on ((streamMsg_frame a now isBlocked r s).2.2.1 _ _ _ h)
  | rate r s rate h => exact on ((streamMsg_frame a now isBlocked r s).2.2.2.1 _ _ h)
  | cancel r s h => exact on ((streamMsg_frame a now isBlocked r s).2.2.2.2 _ h)

theorem paramsValid_step {s s' : State} (hp : ParamsValid s) (h : FineStep s s') : ParamsValid s' := by
  have reg : ∀ k, (s.reg k).params.validate = true → (s'.reg k).params.validate = true := fun k hk =>
    (fineStep_reg k h).elim (fun e => e ▸ hk) (fun ⟨_, hop⟩ => regOp_params hop hk)
  refine ⟨?_, reg .wrk hp.wrk, reg .bcn hp.bcn, ?_⟩
  · cases fineStep_ent h with
    | same hb => rw [(EntState.book_eq_iff.mp hb).1]; exact hp.ent
    | op hop =>
      exact (entOp_frame hop).2.2.2.2.elim (fun he => he ▸ hp.ent) id
    | complete id x hx he => rw [he, (completeOne_frame hx).1]; exact hp.ent
    | tally id ht => rw [(tallyOne_frame ht).1]; exact hp.ent
  · cases h with
    | leaf wall m r hl _ _ h =>
      cases FineStep.leafStep hl h with
      | str x hop hs => subst hs; show streamParamsValid x.str.fee = true; rw [streamOp_fee hop]; exact hp.str
      | strParams fee hv hs => subst hs; exact hv
      | reg k r' _ hs => subst hs; cases k <;> exact hp.str
      | ent _ _ hs | send _ _ _ _ _ _ hs | authz _ _ hs | feegrant _ _ hs | revoke _ hs => subst hs; exact hp.str
    | ante tx _ _ h =>
      cases h with
      | none hs | unlock _ _ _ _ _ _ hs | deduct _ _ _ _ _ _ hs => subst hs; exact hp.str
    | time _ _ hs | complete _ _ _ hs | tally _ _ _ hs => subst hs; exact hp.str

def GenParamsValid (g : GenCfg) : Prop :=
  g.ent.validate = true ∧ g.wrk.validate = true ∧ g.bcn.validate = true ∧ streamParamsValid g.strFee = true

theorem paramsValid_reachable (g : GenCfg) (hg : GenParamsValid g) (hgg : GenGrantsOK g) (s : State) (h : Reachable g s) :
    ParamsValid s := by
  have hf := (reachable_fine g hgg s h).1
  exact fine_inv g (fun _ => True) ParamsValid ⟨hg.1, hg.2.1, hg.2.2.1, hg.2.2.2⟩
    (fun _ _ _ => paramsValid_step) s hf

end Mainchain
