import Mainchain.Lemmas.RegistryInv
import Mainchain.Model.Genesis
/-
Export followed by import of a registry module (x/wrkchain, x/beacon `ExportGenesis` / `InitGenesis`).  The sections are stored
in canonical order — registrations and limits by ascending id (ids come from a counter), records by ascending store key — and
the import rebuilds them in that order: hence the *identical* state when no registration exceeds the export cap (`importReg_eq`).
-/
namespace Mainchain
open AL Genesis

theorem find_collectRec (r : RegState) (id : Nat) (rs : List ((Nat × Nat) × Rec)) (a : Nat) (key : Nat × Nat) :
    find? (collectRec r id rs a) key =
      if (id, a) = key then (find? r.recs key).or (find? rs key) else find? rs key := by
  unfold collectRec
  by_cases hk : (id, a) = key
  · subst hk; rw [if_pos rfl]
    cases find? r.recs (id, a) with
    | some rc => exact find_insertRec_eq _ _ _
    | none => rfl
  · rw [if_neg hk]
    cases find? r.recs (id, a) with
    | some rc => exact find_insertRec_ne _ _ _ _ hk
    | none => rfl

theorem find_foldl_collectRec (r : RegState) (id : Nat) (l : List Nat) (acc : List ((Nat × Nat) × Rec)) (key : Nat × Nat) :
    find? (l.foldl (collectRec r id) acc) key =
      if key.2 ∈ l then (if key.1 = id then (find? r.recs key).or (find? acc key) else find? acc key) else find? acc key :=
  foldl_obs (collectRec r id) (find? · key) key.2 (fun b => if key.1 = id then (find? r.recs key).or b else b)
    (fun b => by split <;> cases find? r.recs key <;> rfl)
    (fun s => by
      rw [find_collectRec]
      by_cases h : key.1 = id
      · rw [if_pos h, if_pos (by rw [← h])]
      · rw [if_neg h, if_neg (fun e => h (congrArg Prod.fst e).symm)])
    (fun s a ha => by rw [find_collectRec, if_neg (fun e => ha (congrArg Prod.snd e))]) l acc

theorem importStep_recs (r acc : RegState) (id : Nat) (key : Nat × Nat) :
    find? (importRegStep r acc id).recs key =
      if id = key.1 then
        (if (find? r.regs id).isSome = true ∧ key.2 ∈ keptKeys r id then (find? r.recs key).or (find? acc.recs key)
         else find? acc.recs key)
      else find? acc.recs key := by
  unfold importRegStep
  cases hf : find? r.regs id with
  | none => simp
  | some m =>
    simp only [Option.isSome_some, true_and]
    rw [find_foldl_collectRec]
    by_cases h : id = key.1
    · rw [if_pos h, if_pos h.symm]
    · rw [if_neg h, if_neg (Ne.symm h), ite_self]

theorem importReg_head (r : RegState) :
    (importReg r).kind = r.kind ∧ (importReg r).params = r.params ∧ (importReg r).nextId = r.nextId := by
  refine List.foldlRecOn _ _ (motive := fun acc : RegState => acc.kind = r.kind ∧ acc.params = r.params ∧ acc.nextId = r.nextId)
    ⟨rfl, rfl, rfl⟩ (fun acc h a _ => ?_)
  unfold importRegStep; cases find? r.regs a <;> exact h

theorem importFold_recs (r : RegState) (l : List Nat) (acc : RegState) (key : Nat × Nat) :
    find? (l.foldl (importRegStep r) acc).recs key =
      if key.1 ∈ l then
        (if (find? r.regs key.1).isSome = true ∧ key.2 ∈ keptKeys r key.1 then (find? r.recs key).or (find? acc.recs key)
         else find? acc.recs key)
      else find? acc.recs key :=
  foldl_obs (importRegStep r) (fun acc => find? acc.recs key) key.1
    (fun b => if (find? r.regs key.1).isSome = true ∧ key.2 ∈ keptKeys r key.1 then (find? r.recs key).or b else b)
    (fun b => by split <;> cases find? r.recs key <;> rfl)
    (fun s => by rw [importStep_recs, if_pos rfl]) (fun s a ha => by rw [importStep_recs, if_neg ha]) l acc

theorem importReg_regs (r : RegState) (hn : NoDupKeys r.regs) (hc : RegCanon r) :
    (importReg r).regs = r.regs.map (fun e => (e.1, recount r e.1 e.2)) := by
  rw [← foldl_copy r.regs hn (recount r), ← show sortNat (keys r.regs) = keys r.regs from isort_of_asc _ hc.regsAsc]
  exact (List.foldl_hom RegState.regs (fun x y => by unfold importRegStep; cases find? r.regs y <;> rfl)).symm

theorem importReg_limits (r : RegState) (hn : NoDupKeys r.regs) (hc : RegCanon r) :
    (importReg r).limits = r.regs.map (fun e => (e.1, limitOr0 r e.1)) := by
  rw [← foldl_copy r.regs hn (fun id _ => limitOr0 r id),
    ← show sortNat (keys r.regs) = keys r.regs from isort_of_asc _ hc.regsAsc]
  exact (List.foldl_hom RegState.limits (fun x y => by unfold importRegStep; cases find? r.regs y <;> rfl)).symm

theorem mem_retained (r : RegState) (id k : Nat) : k ∈ r.retained id ↔ (find? r.recs (id, k)).isSome = true := by
  show k ∈ isort (keysOf r.recs id) ↔ _
  rw [mem_isort, mem_keysOf_iff_find]

theorem importReg_recs (r : RegState) (hi : RegInv r) (id k : Nat) :
    find? (importReg r).recs (id, k) = if k ∈ keptKeys r id then find? r.recs (id, k) else none := by
  refine (importFold_recs ..).trans ?_
  dsimp only
  by_cases hk : k ∈ keptKeys r id
  · obtain ⟨rc, hf⟩ := Option.isSome_iff_exists.mp ((mem_retained r id k).mp (List.mem_of_mem_drop hk))
    obtain ⟨m, hm, _⟩ := hi.recsBounded id k rc hf
    rw [if_pos (show id ∈ sortNat _ from (mem_isort _ _).mpr (mem_keys_of_find _ _ _ hm)), if_pos ⟨by rw [hm]; rfl, hk⟩, if_pos hk, hf,
      Option.some_or]
  · rw [if_neg hk, if_neg (fun h : _ ∧ k ∈ keptKeys r id => hk h.2), ite_self]; rfl

/-- `b` holds what `a` held, the records cut to the newest `exportCap` per registration and the two counters
of every registration recomputed from them.  Two clauses for the limits: the limit is exported with its registration, so at a
registered id `b` has the limit entry of `a`, and at any other id none. -/
def RegNewest (a b : RegState) : Prop :=
  b.kind = a.kind ∧ b.params = a.params ∧ b.nextId = a.nextId ∧
  (∀ id, find? b.regs id = (find? a.regs id).map (recount a id)) ∧
  (∀ id m, find? a.regs id = some m → find? b.limits id = find? a.limits id) ∧
  (∀ id, find? a.regs id = none → find? b.limits id = none) ∧
  (∀ id k, find? b.recs (id, k) = if k ∈ keptKeys a id then find? a.recs (id, k) else none)

theorem importReg_newest (r : RegState) (hi : RegInv r) (hc : RegCanon r) : RegNewest r (importReg r) := by
  obtain ⟨h1, h2, h3⟩ := importReg_head r
  have hlim : ∀ id, find? (importReg r).limits id = (find? r.regs id).map (fun _ => limitOr0 r id) := fun id => by
    rw [importReg_limits r hi.nodupRegs hc]; exact find_map_vals (fun id _ => limitOr0 r id) _ _
  refine ⟨h1, h2, h3, fun id => ?_, fun id m hm => ?_, fun id hn => ?_, importReg_recs r hi⟩
  · rw [importReg_regs r hi.nodupRegs hc, find_map_vals]
  · obtain ⟨l, hl, _⟩ := hi.hasLimit id m hm
    rw [hlim, hm, hl, limitOr0, hl]; rfl
  · rw [hlim, hn]; rfl

theorem keptKeys_small (r : RegState) (id : Nat) (h : (r.retained id).length ≤ exportCap) : keptKeys r id = r.retained id := by
  unfold keptKeys
  simp only
  rw [Nat.sub_eq_zero_of_le h]; rfl

theorem importReg_recs_small (r : RegState) (hi : RegInv r) (hcap : ∀ id, (r.retained id).length ≤ exportCap)
    (id k : Nat) : find? (importReg r).recs (id, k) = find? r.recs (id, k) := by
  rw [importReg_recs r hi id k, keptKeys_small r id (hcap id)]
  by_cases hk : k ∈ r.retained id
  · rw [if_pos hk]
  · rw [if_neg hk]
    cases hf : find? r.recs (id, k) with
    | none => rfl
    | some v => exact absurd ((mem_retained r id k).mpr (by rw [hf]; rfl)) hk

theorem recount_eq (r : RegState) (hc : WrkCounters r) (id : Nat) (m : RegMeta) (hm : find? r.regs id = some m)
    (hcap : (r.retained id).length ≤ exportCap) : recount r id m = m := by
  have hs : r.retained id = keysOf r.recs id := isort_of_asc _ (hc.sorted id)
  unfold recount
  rw [keptKeys_small r id hcap, hs, ← hc.num id m hm, List.headD_eq_head?_getD, ← hc.lowest id m hm]

theorem sorted_importReg (r : RegState) : RecsSorted (importReg r).recs := by
  refine List.foldlRecOn _ _ (motive := fun acc : RegState => RecsSorted acc.recs) List.Pairwise.nil (fun acc h id _ => ?_)
  unfold importRegStep
  cases find? r.regs id with
  | none => exact h
  | some m =>
    dsimp only
    refine List.foldlRecOn _ _ (motive := RecsSorted) h (fun rs h k _ => ?_)
    unfold collectRec
    cases find? r.recs (id, k) with
    | none => exact h
    | some rc => exact sorted_insertRec _ _ _ h

theorem regState_ext (a b : RegState) (h1 : a.kind = b.kind) (h2 : a.params = b.params) (h3 : a.nextId = b.nextId)
    (h4 : a.regs = b.regs) (h5 : a.limits = b.limits) (h6 : a.recs = b.recs) : a = b := by
  cases a; cases b
  simp only at h1 h2 h3 h4 h5 h6
  subst h1 h2 h3 h4 h5 h6
  rfl

theorem importReg_eq (r : RegState) (hi : RegAll r) (hcap : ∀ id, (r.retained id).length ≤ exportCap) : importReg r = r := by
  obtain ⟨h1, h2, h3⟩ := importReg_head r
  refine regState_ext _ _ h1 h2 h3 ?_ ?_ ?_
  · rw [importReg_regs r hi.reg.nodupRegs hi.canon]
    refine (List.map_congr_left (fun e he => ?_)).trans (List.map_id _)
    rw [recount_eq r hi.cnt e.1 e.2 (find_of_mem _ hi.reg.nodupRegs _ _ he) (hcap e.1)]; rfl
  · -- the limit list has the keys of the registration list, and every registration has a limit entry
    have hl : r.limits.map (fun e => (e.1, limitOr0 r e.1)) = r.limits :=
      (List.map_congr_left (fun e he => by
        rw [limitOr0, find_of_mem _ hi.reg.nodupLimits _ _ he]; rfl)).trans (List.map_id _)
    rw [importReg_limits r hi.reg.nodupRegs hi.canon, ← hl]
    have hk : ∀ {ν : Type} (l : List (Nat × ν)), l.map (fun e => (e.1, limitOr0 r e.1)) = (keys l).map (fun k => (k, limitOr0 r k)) :=
      fun l => (List.map_map (g := fun k => (k, limitOr0 r k)) (f := Prod.fst)).symm
    rw [hk, hk, hi.canon.limits]
  · exact sorted_ext _ _ (sorted_importReg r) hi.reg.sortedRecs
      (fun key => importReg_recs_small r hi.reg hcap key.1 key.2)

def RegSame (a b : RegState) : Prop :=
  b.kind = a.kind ∧ b.params = a.params ∧ b.nextId = a.nextId ∧
  (∀ id, find? b.regs id = find? a.regs id) ∧
  (∀ id m, find? a.regs id = some m → find? b.limits id = find? a.limits id) ∧
  (∀ id k, find? b.recs (id, k) = find? a.recs (id, k))

theorem importReg_same (r : RegState) (hi : RegAll r) (hcap : ∀ id, (r.retained id).length ≤ exportCap) :
    RegSame r (importReg r) := by
  rw [importReg_eq r hi hcap]
  exact ⟨rfl, rfl, rfl, fun _ => rfl, fun _ _ _ => rfl, fun _ _ => rfl⟩

end Mainchain
