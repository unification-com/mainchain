import Mainchain.Lemmas.AList
import Mainchain.Lemmas.Sort
import Mainchain.Model.Registry
/-
The record list is kept in store-key order, so `keysOf` is strictly ascending and therefore determined by its members
(`asc_ext`): how it changes under `insertRec` and `erase` is read off from `find?`.
-/
namespace Mainchain
open AL

/-- retained keys (WRKChain heights, BEACON timestamp ids) of registration `id`, in store order -/
def keysOf (recs : List ((Nat × Nat) × Rec)) (id : Nat) : List Nat :=
  (recs.filter (fun e => e.1.1 = id)).map (fun e => e.1.2)

theorem mem_keysOf (recs : List ((Nat × Nat) × Rec)) (id k : Nat) :
    k ∈ keysOf recs id ↔ (id, k) ∈ keys recs := by
  unfold keysOf keys
  simp only [List.mem_map, List.mem_filter, decide_eq_true_eq]
  constructor
  · rintro ⟨⟨⟨i, k'⟩, r⟩, ⟨hm, rfl⟩, rfl⟩; exact ⟨_, hm, rfl⟩
  · rintro ⟨⟨⟨i, k'⟩, r⟩, hm, he⟩
    obtain ⟨rfl, rfl⟩ := Prod.mk.inj he
    exact ⟨_, ⟨hm, rfl⟩, rfl⟩

theorem mem_keysOf_iff_find (recs : List ((Nat × Nat) × Rec)) (id k : Nat) :
    k ∈ keysOf recs id ↔ (find? recs (id, k)).isSome = true := by
  rw [mem_keysOf]
  exact ⟨fun h => by obtain ⟨v, hv⟩ := find_some_of_mem _ _ h; rw [hv]; rfl,
    fun h => by obtain ⟨v, hv⟩ := Option.isSome_iff_exists.mp h; exact mem_keys_of_find _ _ v hv⟩

theorem keysOf_sorted (recs : List ((Nat × Nat) × Rec)) (hs : RecsSorted recs) (id : Nat) : Asc (keysOf recs id) :=
  List.pairwise_map.mpr ((hs.filter _).imp_of_mem fun ha hb hab => by
    have ha := (List.mem_filter.mp ha).2
    have hb := (List.mem_filter.mp hb).2
    simp only [pairLt, decide_eq_true_eq, Bool.or_eq_true, Bool.and_eq_true] at ha hb hab
    omega)

theorem keysOf_insert_fresh (recs : List ((Nat × Nat) × Rec)) (id h : Nat) (r : Rec) (id' : Nat)
    (hf : find? recs (id, h) = none) :
    keysOf (AL.insert recs (id, h) r) id' = if id' = id then keysOf recs id' ++ [h] else keysOf recs id' := by
  rw [insert_of_not_mem _ _ _ ((find_eq_none_iff _ _).mp hf)]
  unfold keysOf
  by_cases he : id' = id
  · subst he; simp
  · have : ¬ id = id' := fun e => he e.symm
    simp [he, this]

theorem keysOf_insertRec_fresh (recs : List ((Nat × Nat) × Rec)) (id h : Nat) (r : Rec) (id' : Nat)
    (hs : RecsSorted recs) (hgt : ∀ k ∈ keysOf recs id, k < h) :
    keysOf (insertRec recs (id, h) r) id' = if id' = id then keysOf recs id' ++ [h] else keysOf recs id' := by
  refine asc_ext _ _ (keysOf_sorted _ (sorted_insertRec _ _ _ hs) _) ?_ (fun x => ?_)
  · split
    · rename_i he; subst he
      exact List.pairwise_append.mpr ⟨keysOf_sorted _ hs _, List.pairwise_singleton _ _,
        fun a ha b hb => by rw [List.mem_singleton.mp hb]; exact hgt a ha⟩
    · exact keysOf_sorted _ hs _
  · rw [mem_keysOf, mem_keys_insertRec, ← mem_keysOf, Prod.mk.injEq]
    split
    · rename_i he; rw [List.mem_append, List.mem_singleton]
      exact ⟨fun hx => hx.elim (fun e => Or.inr e.2) Or.inl, fun hx => hx.elim Or.inr (fun e => Or.inl ⟨he, e⟩)⟩
    · rename_i he; exact ⟨fun hx => hx.elim (fun e => absurd e.1 he) (fun h => h), Or.inr⟩

theorem keysOf_erase (recs : List ((Nat × Nat) × Rec)) (id d id' : Nat) (hs : RecsSorted recs) :
    keysOf (erase recs (id, d)) id' = if id' = id then (keysOf recs id').erase d else keysOf recs id' := by
  have hasc := keysOf_sorted _ hs id'
  refine asc_ext _ _ (keysOf_sorted _ (sorted_erase _ _ hs) _) ?_ (fun x => ?_)
  · split
    · exact List.Pairwise.sublist List.erase_sublist hasc
    · exact hasc
  · rw [mem_keysOf, mem_keys_erase_iff _ _ _ (nodup_of_sorted _ hs), ← mem_keysOf, Ne, Prod.mk.injEq]
    split
    · rename_i he; rw [(asc_nodup _ hasc).mem_erase_iff]
      exact ⟨fun hx => ⟨fun e => hx.1 ⟨he, e⟩, hx.2⟩, fun hx => ⟨fun e => hx.1 e.2, hx.2⟩⟩
    · rename_i he; exact ⟨fun hx => hx.2, fun hx => ⟨fun e => he e.1, hx⟩⟩

theorem minOr0_sorted (l : List Nat) (h : Asc l) : RegState.minOr0 l = l.head?.getD 0 := by
  cases l with
  | nil => rfl
  | cons x xs =>
    have hx : ∀ y ∈ xs, x < y := (List.pairwise_cons.mp h).1
    clear h
    show xs.foldl min x = x
    induction xs with
    | nil => rfl
    | cons y ys ih =>
      rw [List.foldl_cons, Nat.min_eq_left (Nat.le_of_lt (hx y (List.mem_cons_self ..)))]
      exact ih (fun z hz => hx z (List.mem_cons_of_mem _ hz))

theorem lowestRetained_sorted (s : RegState) (hs : RecsSorted s.recs) (id : Nat) :
    s.lowestRetained id = (keysOf s.recs id).head?.getD 0 := minOr0_sorted _ (keysOf_sorted _ hs id)

end Mainchain
