import Mainchain.Lemmas.RegKeys
import Mainchain.Lemmas.Monad
import Mainchain.Lemmas.Num
/-
The registry machine (x/wrkchain, x/beacon).  A beacon is a WRKChain whose heights are handed out consecutively: both record
functions leave a state of the form `RegState.stored`, with the same outcome under the invariants (`record_shape`).  One bundle
`RegAll` serves both; peculiar to the beacon is only the field `RegAll.bcn`
(`last = 0` while nothing is retained, then `lowest + num = last + 1`), whence its contiguous range (`bcn_keys`).
-/
namespace Mainchain
open AL

theorem validate_defLimit (p : RegParams) (h : p.validate = true) : 1 ≤ p.defLimit := by
  simp only [RegParams.validate, Bool.and_eq_true, decide_eq_true_eq] at h
  exact Nat.pos_of_ne_zero h.1.1.2

theorem limitOf_of_find (s : RegState) (id l : Nat) (h : find? s.limits id = some l) : (s.limitOf id).1 = l := by
  rw [RegState.limitOf, h]

theorem limitOf_insert {s s' : RegState} {id v : Nat} (h : s'.limits = insert s.limits id v) (j : Nat) :
    s'.limitOf j = if id = j then (v, true) else s.limitOf j := by
  unfold RegState.limitOf; rw [h, find_insert]
  by_cases e : id = j
  · rw [if_pos e, if_pos e]
  · rw [if_neg e, if_neg e]

theorem limitOf_regs_irrel (s : RegState) (regs : List (Nat × RegMeta)) (recs : List ((Nat × Nat) × Rec)) (id : Nat) :
    ({ s with regs := regs, recs := recs } : RegState).limitOf id = s.limitOf id := rfl

theorem ownedBy_ok {s : RegState} {id : Nat} {a : Addr} {m : RegMeta} (h : s.ownedBy id a = .ok m) :
    find? s.regs id = some m ∧ m.owner.decode = some a := by
  unfold RegState.ownedBy at h
  split at h
  · cases h
  · rename_i m' hm
    split at h
    · rename_i ho; cases h; exact ⟨hm, ho⟩
    · cases h

theorem ownerOf_eq {r : RegState} {id : Nat} {a : Addr} {m : RegMeta} (hm : find? r.regs id = some m)
    (hd : m.owner.decode = some a) : r.ownerOf id = some a := by
  unfold RegState.ownerOf; rw [hm]; exact hd

theorem RegState.register_ok {s : RegState} {now : Nat} {mk nm gn ty : String} {o : AddrTok} {s' : RegState} {id : Nat}
    (h : s.register now mk nm gn ty o = .ok (s', id)) :
    ∃ oa, o.decode = some oa ∧ s' = s.registered now mk nm gn ty oa ∧ id = s.nextId := by
  simp only [RegState.register, bind_eq_ok, pure_eq_ok, Prod.mk.injEq, decodeM_eq_ok] at h
  obtain ⟨oa, hoa, _, _, _, _, _, _, rfl, rfl⟩ := h
  exact ⟨oa, hoa, rfl, rfl⟩

theorem RegState.purchase_ok {s : RegState} {id n : Nat} {o : AddrTok} {s' : RegState} {can : Nat}
    (h : s.purchase id n o = .ok (s', can)) :
    ∃ oa m, o.decode = some oa ∧ find? s.regs id = some m ∧ m.owner.decode = some oa ∧ n ≠ 0 ∧
      (s.limitOf id).1 ≤ addU64 (s.limitOf id).1 n ∧ addU64 (s.limitOf id).1 n ≤ s.params.maxLimit ∧
      s' = { s with limits := insert s.limits id (addU64 (s.limitOf id).1 n) } ∧ can = s'.maxPurchasable id := by
  simp only [RegState.purchase, bind_eq_ok, pure_eq_ok, Prod.mk.injEq, require_eq_ok, decodeM_eq_ok,
    Bool.and_eq_true, decide_eq_true_eq] at h
  obtain ⟨oa, hoa, _, hn, m, hm, _, ⟨hle, hmono⟩, rfl, rfl⟩ := h
  obtain ⟨hm1, hm2⟩ := ownedBy_ok hm
  exact ⟨oa, m, hoa, hm1, hm2, hn, hmono, hle, rfl, rfl⟩

theorem RegState.setParams_ok {s : RegState} {p : RegParams} {s' : RegState} (h : s.setParams p = .ok s') :
    p.validate = true ∧ s' = { s with params := p } := by
  simp only [RegState.setParams, bind_eq_ok, pure_eq_ok, require_eq_ok] at h
  obtain ⟨_, hv, rfl⟩ := h
  exact ⟨hv, rfl⟩

theorem RegState.record_ok {s : RegState} {now wall id key : Nat} {rc : Rec} {o : AddrTok} {s' : RegState} {k : Nat}
    (h : s.record now wall id key rc o = .ok (s', k)) :
    ∃ oa m, o.decode = some oa ∧ find? s.regs id = some m ∧ m.owner.decode = some oa ∧
      match s.kind with
      | .wrk => m.last < key ∧ s' = s.recordWrk now m key rc ∧ k = key
      | .bcn => rc.h0.utf8ByteSize ≤ maxHashLen ∧
          (s', k) = s.recordBcn m rc.h0 (if rc.subTime = 0 then wall else rc.subTime) := by
  simp only [RegState.record, bind_eq_ok, decodeM_eq_ok] at h
  obtain ⟨oa, hoa, h⟩ := h
  cases hk : s.kind <;>
    simp only [hk, bind_eq_ok, pure_eq_ok, require_eq_ok, decide_eq_true_eq, Prod.mk.injEq] at h ⊢
  · obtain ⟨_, _, _, _, m, hm, _, hgt, rfl, rfl⟩ := h
    exact ⟨oa, m, hoa, (ownedBy_ok hm).1, (ownedBy_ok hm).2, hgt, rfl, rfl⟩
  · obtain ⟨_, hsz, m, hm, heq⟩ := h
    exact ⟨oa, m, hoa, (ownedBy_ok hm).1, (ownedBy_ok hm).2, hsz, heq.symm⟩

/-- the state after registration `m` has accepted `rc` under key `k`, pruned the record under `drop` and set its counters
to `n`, `l` -/
def RegState.stored (s : RegState) (m : RegMeta) (k : Nat) (rc : Rec) (drop : Option Nat) (n l : Nat) : RegState :=
  { s with recs := (match drop with
                    | none => insertRec s.recs (m.id, k) rc
                    | some d => erase (insertRec s.recs (m.id, k) rc) (m.id, d))
           regs := insert s.regs m.id { m with last := k, num := n, lowest := l } }

/-- the record `recordWrk` stores: the submitted hashes under the accepted height, stamped with the block time -/
def wrkRec (r : Rec) (now h : Nat) : Rec := { r with key := h, subTime := now }

theorem recordWrk_eq (s : RegState) (m : RegMeta) (now h : Nat) (r : Rec) :
    s.recordWrk now m h r =
      if addU64 m.num 1 > (s.limitOf m.id).1 ∧ m.lowest > 0 then
        s.stored m h (wrkRec r now h) (some m.lowest) (subU64 (addU64 m.num 1) 1)
          (({ s with recs := erase (insertRec s.recs (m.id, h) (wrkRec r now h)) (m.id, m.lowest) } : RegState).lowestRetained m.id)
      else s.stored m h (wrkRec r now h) none (addU64 m.num 1) (if m.lowest = 0 then h else m.lowest) := rfl

/-- `h0`, `hlim` : when it prunes, the code deletes `if m.lowest = 0 then` the key just written `else m.lowest`.  Pruning means
`m.num + 1 > limit ≥ 1`, so `m.num ≠ 0` and, by `h0`, `m.lowest ≠ 0`: the key deleted is `m.lowest`. -/
theorem recordBcn_eq (s : RegState) (m : RegMeta) (hash : String) (st : Nat)
    (hb : m.last + 1 < two64 ∧ m.num + 1 < two64) (hlow : m.lowest + 1 < two64) (h0 : m.lowest = 0 → m.num = 0)
    (hlim : 1 ≤ (s.limitOf m.id).1) :
    s.recordBcn m hash st =
      (if m.num + 1 > (s.limitOf m.id).1 then
        s.stored m (m.last + 1) { key := m.last + 1, h0 := hash, subTime := st } (some m.lowest) m.num (m.lowest + 1)
       else s.stored m (m.last + 1) { key := m.last + 1, h0 := hash, subTime := st } none (m.num + 1)
          (if m.lowest = 0 then m.last + 1 else m.lowest), m.last + 1) := by
  unfold RegState.recordBcn
  dsimp only
  rw [addU64_small _ _ hb.1, addU64_small _ _ hb.2, subU64_succ, if_pos (Nat.lt_succ_self _)]
  split
  · rename_i hp
    have hl0 : ¬ m.lowest = 0 := fun e => Nat.not_lt.mpr hlim (by rw [h0 e] at hp; exact hp)
    rw [if_neg hl0, addU64_small _ _ hlow]; rfl
  · rfl

/-- What a record submission does not write (`record_frame`).  It carries across a submission the validity of the parameters,
the kind of a reachable registry, and the limit that C08 reads. -/
structure RegState.SameHead (s s' : RegState) : Prop where
  limits : s'.limits = s.limits
  params : s'.params = s.params
  kind : s'.kind = s.kind

theorem recordWrk_frame (s : RegState) (now : Nat) (m : RegMeta) (h : Nat) (r : Rec) : s.SameHead (s.recordWrk now m h r) := by
  rw [recordWrk_eq]; split <;> exact ⟨rfl, rfl, rfl⟩

theorem recordBcn_frame (s : RegState) (m : RegMeta) (hash : String) (st : Nat) : s.SameHead (s.recordBcn m hash st).1 := by
  unfold RegState.recordBcn; dsimp only; split <;> exact ⟨rfl, rfl, rfl⟩

theorem record_frame {s : RegState} {now wall id key : Nat} {rc : Rec} {o : AddrTok} {s' : RegState} {k : Nat}
    (h : s.record now wall id key rc o = .ok (s', k)) : s.SameHead s' := by
  obtain ⟨_, m, _, _, _, hk⟩ := RegState.record_ok h
  cases hkind : s.kind <;> rw [hkind] at hk
  · exact hk.2.1 ▸ recordWrk_frame ..
  · have e : s' = _ := congrArg Prod.fst hk.2
    exact e ▸ recordBcn_frame ..

theorem find_stored_regs (s : RegState) (m : RegMeta) (k : Nat) (rc : Rec) (drop : Option Nat) (n l j : Nat) :
    find? (s.stored m k rc drop n l).regs j =
      if m.id = j then some { m with last := k, num := n, lowest := l } else find? s.regs j := find_insert ..

theorem find_stored_recs {s : RegState} {m : RegMeta} {k : Nat} {rc : Rec} {drop : Option Nat} {n l : Nat}
    (hs : RecsSorted s.recs) (x : Nat × Nat) :
    find? (s.stored m k rc drop n l).recs x =
      if drop.map (fun d => (m.id, d)) = some x then none else if (m.id, k) = x then some rc else find? s.recs x := by
  cases drop with
  | none => simp only [RegState.stored, Option.map_none, reduceCtorEq, if_false]; exact find_insertRec ..
  | some d =>
    simp only [RegState.stored, Option.map_some, Option.some.injEq]
    rw [find_erase _ _ _ (nodup_of_sorted _ (sorted_insertRec _ _ _ hs)), find_insertRec]

def RegMeta.Frozen (m m' : RegMeta) : Prop :=
  m'.owner = m.owner ∧ m'.moniker = m.moniker ∧ m'.name = m.name ∧ m'.genesis = m.genesis ∧
  m'.type = m.type ∧ m'.regTime = m.regTime ∧ m'.id = m.id

theorem RegMeta.Frozen.refl (m : RegMeta) : m.Frozen m := ⟨rfl, rfl, rfl, rfl, rfl, rfl, rfl⟩

theorem RegMeta.Frozen.trans {a b c : RegMeta} (h1 : a.Frozen b) (h2 : b.Frozen c) : a.Frozen c := by
  obtain ⟨a1, a2, a3, a4, a5, a6, a7⟩ := h1
  obtain ⟨b1, b2, b3, b4, b5, b6, b7⟩ := h2
  exact ⟨b1.trans a1, b2.trans a2, b3.trans a3, b4.trans a4, b5.trans a5, b6.trans a6, b7.trans a7⟩

theorem stored_regs_mono (s : RegState) (m : RegMeta) (k : Nat) (rc : Rec) (drop : Option Nat) (n l : Nat)
    (hm : find? s.regs m.id = some m) (hk : m.last ≤ k) (j : Nat) (m0 : RegMeta) (h0 : find? s.regs j = some m0) :
    ∃ m', find? (s.stored m k rc drop n l).regs j = some m' ∧ m0.last ≤ m'.last ∧ m0.Frozen m' := by
  rw [find_stored_regs]
  split
  · rename_i e; subst e; cases hm.symm.trans h0
    exact ⟨_, rfl, hk, .refl m⟩
  · exact ⟨m0, h0, Nat.le_refl _, .refl m0⟩

structure RegInv (s : RegState) : Prop where
  nodupRegs : NoDupKeys s.regs
  nodupLimits : NoDupKeys s.limits
  sortedRecs : RecsSorted s.recs
  idsBelowNext : ∀ id m, find? s.regs id = some m → m.id = id ∧ id < s.nextId
  hasLimit : ∀ id m, find? s.regs id = some m → ∃ l, find? s.limits id = some l ∧ 1 ≤ l
  recsBounded : ∀ id k r, find? s.recs (id, k) = some r →
      ∃ m, find? s.regs id = some m ∧ 1 ≤ k ∧ k ≤ m.last ∧ r.key = k
  paramsValid : s.params.validate = true

/-- history assumption: the id counter and, per registration, the number in state and the newest key are below 2^64 − 1 (the newest
key is a counter for a BEACON, the submitted height for a WRKChain) -/
def RegBounded (s : RegState) : Prop :=
  s.nextId + 1 < two64 ∧ ∀ id m, find? s.regs id = some m → m.last + 1 < two64 ∧ m.num + 1 < two64

/-- the counters of a registration count its retained keys (either module) -/
structure WrkCounters (s : RegState) : Prop where
  sorted : ∀ id, (keysOf s.recs id).Pairwise (· < ·)
  num : ∀ id m, find? s.regs id = some m → m.num = (keysOf s.recs id).length
  lowest : ∀ id m, find? s.regs id = some m → m.lowest = (keysOf s.recs id).head?.getD 0
  withinLimit : ∀ id m, find? s.regs id = some m → m.num ≤ (s.limitOf id).1

/-- counters of a beacon describe exactly the contiguous range of retained timestamp ids -/
structure BcnCounters (s : RegState) : Prop where
  empty : ∀ id m, find? s.regs id = some m → m.num = 0 → m.lowest = 0 ∧ m.last = 0
  range : ∀ id m, find? s.regs id = some m → 0 < m.num → 1 ≤ m.lowest ∧ m.lowest + m.num = m.last + 1
  present : ∀ id m k, find? s.regs id = some m →
      ((find? s.recs (id, k)).isSome ↔ (0 < m.num ∧ m.lowest ≤ k ∧ k ≤ m.last))
  withinLimit : ∀ id m, find? s.regs id = some m → m.num ≤ (s.limitOf id).1

/-- The order in which `importReg` rebuilds the sections: ascending id, one limit entry per registration.  Only the import
lemmas read it: with it the imported lists are a `map` over the stored ones (`importReg_regs`, `importReg_limits`), whence
`importReg_eq`; the steps merely preserve it. -/
structure RegCanon (r : RegState) : Prop where
  regsAsc : Asc (keys r.regs)
  limits : keys r.limits = keys r.regs

/-- `bcn`: what the beacon adds to the WRKChain -/
structure RegAll (s : RegState) : Prop where
  reg : RegInv s
  cnt : WrkCounters s
  bcn : s.kind = .bcn → ∀ id m, find? s.regs id = some m →
      (m.num = 0 → m.last = 0) ∧ (0 < m.num → m.lowest + m.num = m.last + 1)
  canon : RegCanon s

theorem RegInv.one_le_limit {s : RegState} (hi : RegInv s) {id : Nat} {m : RegMeta} (hm : find? s.regs id = some m) :
    1 ≤ (s.limitOf id).1 := by
  obtain ⟨l, hl, hl1⟩ := hi.hasLimit id m hm
  rw [limitOf_of_find s id l hl]; exact hl1

theorem RegInv.keys_le_last {s : RegState} (hi : RegInv s) {id : Nat} {m : RegMeta} (hm : find? s.regs id = some m) :
    ∀ k ∈ keysOf s.recs id, 1 ≤ k ∧ k ≤ m.last := by
  intro k hk
  rw [mem_keysOf] at hk
  obtain ⟨r, hr⟩ := find_some_of_mem _ _ hk
  obtain ⟨m2, hm2, h1, h2, _⟩ := hi.recsBounded id k r hr
  rw [hm] at hm2; cases hm2; exact ⟨h1, h2⟩

theorem stored_keysOf {s : RegState} {m : RegMeta} {k : Nat} (rc : Rec) (drop : Option Nat) (n l : Nat)
    (hi : RegInv s) (hm : find? s.regs m.id = some m) (hk : m.last < k) (j : Nat) :
    keysOf (s.stored m k rc drop n l).recs j =
      if j = m.id then (match drop with
                        | none => keysOf s.recs j ++ [k]
                        | some d => (keysOf s.recs j ++ [k]).erase d)
      else keysOf s.recs j := by
  have hlt : ∀ x ∈ keysOf s.recs m.id, x < k := fun x hx => Nat.lt_of_le_of_lt (hi.keys_le_last hm x hx).2 hk
  cases drop with
  | none => exact keysOf_insertRec_fresh _ _ _ _ _ hi.sortedRecs hlt
  | some d =>
    simp only [RegState.stored]
    rw [keysOf_erase _ _ _ _ (sorted_insertRec _ _ _ hi.sortedRecs), keysOf_insertRec_fresh _ _ _ _ _ hi.sortedRecs hlt]
    split <;> rfl

theorem RegAll.keys_cases {s : RegState} (hi : RegAll s) {id : Nat} {m : RegMeta} (hm : find? s.regs id = some m) :
    (keysOf s.recs id = [] ∧ m.num = 0 ∧ m.lowest = 0) ∨
    (∃ rest, keysOf s.recs id = m.lowest :: rest ∧ m.num = rest.length + 1 ∧ 1 ≤ m.lowest ∧ m.lowest ≤ m.last) := by
  have hn := hi.cnt.num id m hm
  have hl := hi.cnt.lowest id m hm
  cases hk : keysOf s.recs id with
  | nil => rw [hk] at hn hl; exact Or.inl ⟨rfl, hn, hl⟩
  | cons a as =>
    rw [hk] at hn hl
    cases (show m.lowest = a from hl)
    exact Or.inr ⟨as, rfl, hn, hi.reg.keys_le_last hm _ (by rw [hk]; exact List.mem_cons_self ..)⟩

theorem RegAll.lowest_zero {s : RegState} (hi : RegAll s) {id : Nat} {m : RegMeta} (hm : find? s.regs id = some m) :
    (m.lowest = 0 ↔ m.num = 0) ∧ m.lowest ≤ m.last := by
  rcases hi.keys_cases hm with ⟨_, hn, hl⟩ | ⟨_, _, hn, h1, hle⟩
  · exact ⟨⟨fun _ => hn, fun _ => hl⟩, hl ▸ Nat.zero_le _⟩
  · exact ⟨⟨fun e => absurd e (Nat.ne_of_gt h1), fun e => absurd (hn.symm.trans e) (Nat.succ_ne_zero _)⟩, hle⟩

/-- under the invariants this is what the pruning tests of both modules decide -/
theorem RegAll.full_or_room {s : RegState} (hi : RegAll s) {id : Nat} {m : RegMeta} (hm : find? s.regs id = some m) :
    (m.num = (s.limitOf id).1 ∧ 0 < m.lowest) ∨ m.num + 1 ≤ (s.limitOf id).1 := by
  rcases Nat.lt_or_eq_of_le (hi.cnt.withinLimit id m hm) with hlt | heq
  · exact Or.inr hlt
  · exact Or.inl ⟨heq, Nat.pos_of_ne_zero fun e =>
      Nat.ne_of_gt (hi.reg.one_le_limit hm) (heq.symm.trans ((hi.lowest_zero hm).1.mp e))⟩

theorem RegAll.pruned_keys {s : RegState} (hi : RegAll s) {id : Nat} {m : RegMeta} (hm : find? s.regs id = some m)
    (hlow : 0 < m.lowest) (k : Nat) :
    (keysOf s.recs id ++ [k]).erase m.lowest = (keysOf s.recs id).tail ++ [k] ∧
    m.num = ((keysOf s.recs id).tail ++ [k]).length := by
  rcases hi.keys_cases hm with ⟨_, _, h0⟩ | ⟨rest, hr, hn, _⟩
  · exact absurd h0 (Nat.ne_of_gt hlow)
  · rw [hr, List.cons_append, List.erase_cons_head, List.tail_cons, List.length_append]; exact ⟨rfl, hn⟩

theorem RegAll.appended_keys {s : RegState} (hi : RegAll s) {id : Nat} {m : RegMeta} (hm : find? s.regs id = some m) (k : Nat) :
    m.num + 1 = (keysOf s.recs id ++ [k]).length ∧
    (if m.lowest = 0 then k else m.lowest) = (keysOf s.recs id ++ [k]).head?.getD 0 := by
  rw [List.length_append, ← hi.cnt.num id m hm]
  refine ⟨rfl, ?_⟩
  rcases hi.keys_cases hm with ⟨h0, _, hl0⟩ | ⟨rest, hr, _, hl1, _⟩
  · rw [h0, if_pos hl0]; rfl
  · rw [hr, if_neg (Nat.ne_of_gt hl1)]; rfl

theorem RegAll.bcn_keys {s : RegState} (hi : RegAll s) (hk : s.kind = .bcn) {id : Nat} {m : RegMeta}
    (hm : find? s.regs id = some m) : keysOf s.recs id = List.range' m.lowest m.num := by
  have hasc := hi.cnt.sorted id
  rw [hi.cnt.num id m hm]
  refine asc_eq_range' _ _ hasc (fun x hx => ?_)
  rcases hi.keys_cases hm with ⟨h0, _⟩ | ⟨rest, hr, hn, _, _⟩
  · rw [h0] at hx; cases hx
  · constructor
    · rw [hr] at hx hasc
      rcases List.mem_cons.mp hx with e | hx'
      · exact Nat.le_of_eq e.symm
      · exact Nat.le_of_lt ((List.pairwise_cons.mp hasc).1 x hx')
    · rw [← hi.cnt.num id m hm, (hi.bcn hk id m hm).2 (hn ▸ Nat.succ_pos _)]
      exact Nat.lt_succ_of_le (hi.reg.keys_le_last hm x hx).2

theorem RegAll.bcn_next_lowest {s : RegState} (hi : RegAll s) (hk : s.kind = .bcn) {id : Nat} {m : RegMeta}
    (hm : find? s.regs id = some m) (hlow : 0 < m.lowest) :
    ((keysOf s.recs id).tail ++ [m.last + 1]).head?.getD 0 = m.lowest + 1 := by
  have hkeys := hi.bcn_keys hk hm
  rcases hi.keys_cases hm with ⟨_, _, h0⟩ | ⟨rest, _, hn, _⟩
  · exact absurd h0 (Nat.ne_of_gt hlow)
  · have hb := (hi.bcn hk id m hm).2 (hn ▸ Nat.succ_pos _)
    rw [hn] at hb
    rw [hkeys, hn, List.range'_succ, List.tail_cons]
    cases rest with
    | nil => exact hb.symm
    | cons a as => rw [List.length_cons, List.range'_succ]; rfl

/-- beacon: the counters after one more timestamp, when the lowest is pruned and when nothing is -/
theorem RegAll.bcn_step {s : RegState} (hi : RegAll s) (hk : s.kind = .bcn) {id : Nat} {m : RegMeta}
    (hm : find? s.regs id = some m) :
    (0 < m.lowest → 0 < m.num ∧ m.lowest + 1 + m.num = m.last + 1 + 1) ∧
    (if m.lowest = 0 then m.last + 1 else m.lowest) + (m.num + 1) = m.last + 1 + 1 := by
  rcases hi.keys_cases hm with ⟨_, hn, hl⟩ | ⟨_, _, hn, h1, _⟩
  · rw [if_pos hl, hn]; exact ⟨fun h => absurd hl (Nat.ne_of_gt h), rfl⟩
  · have hp : 0 < m.num := hn ▸ Nat.succ_pos _
    have hb : m.lowest + m.num + 1 = m.last + 1 + 1 := congrArg (· + 1) ((hi.bcn hk id m hm).2 hp)
    rw [if_neg (Nat.ne_of_gt h1)]
    exact ⟨fun _ => ⟨hp, (Nat.add_right_comm ..).trans hb⟩, hb⟩

theorem RegAll.bcnCounters {s : RegState} (hi : RegAll s) (hk : s.kind = .bcn) : BcnCounters s := by
  refine ⟨fun id m hm h0 => ⟨(hi.lowest_zero hm).1.mpr h0, (hi.bcn hk id m hm).1 h0⟩, fun id m hm hp =>
    ⟨Nat.pos_of_ne_zero fun e => Nat.ne_of_gt hp ((hi.lowest_zero hm).1.mp e), (hi.bcn hk id m hm).2 hp⟩,
    fun id m k hm => ?_, hi.cnt.withinLimit⟩
  have hb := (hi.bcn hk id m hm).2
  rw [← mem_keysOf_iff_find, hi.bcn_keys hk hm, List.mem_range'_1]
  constructor
  · intro h; have := hb (by omega); omega
  · intro h; have := hb h.1; omega

/-- key `k` and content `rc'` of the record a successful record message of registration `m` stores -/
def RegState.Stores (s : RegState) (now wall key : Nat) (rc : Rec) (m : RegMeta) (k : Nat) (rc' : Rec) : Prop :=
  match s.kind with
  | .wrk => k = key ∧ rc' = wrkRec rc now key
  | .bcn => k = m.last + 1 ∧ rc' = { key := k, h0 := rc.h0, subTime := if rc.subTime = 0 then wall else rc.subTime } ∧
      rc.h0.utf8ByteSize ≤ maxHashLen

theorem RegState.Stores.wrk {s : RegState} {now wall key : Nat} {rc : Rec} {m : RegMeta} {k : Nat} {rc' : Rec}
    (h : s.Stores now wall key rc m k rc') (hk : s.kind = .wrk) : k = key ∧ rc' = wrkRec rc now key := by
  rw [RegState.Stores, hk] at h; exact h

theorem RegState.Stores.bcn {s : RegState} {now wall key : Nat} {rc : Rec} {m : RegMeta} {k : Nat} {rc' : Rec}
    (h : s.Stores now wall key rc m k rc') (hk : s.kind = .bcn) :
    k = m.last + 1 ∧ rc' = { key := k, h0 := rc.h0, subTime := if rc.subTime = 0 then wall else rc.subTime } ∧
      rc.h0.utf8ByteSize ≤ maxHashLen := by
  rw [RegState.Stores, hk] at h; exact h

/-- The record is stored under a key above `last` (the submitted height, or `last + 1` for a beacon); when the limit is reached
the lowest retained key is pruned and `lowest` becomes the next retained key, otherwise the number in state grows by one. -/
theorem record_shape {s : RegState} {now wall id key : Nat} {rc : Rec} {o : AddrTok} {s' : RegState} {k : Nat}
    (hi : RegAll s) (hb : RegBounded s) (h : s.record now wall id key rc o = .ok (s', k)) :
    ∃ m rc', find? s.regs id = some m ∧ m.id = id ∧ m.last < k ∧
      rc'.key = k ∧ s.Stores now wall key rc m k rc' ∧
      ((m.num = (s.limitOf id).1 ∧ 0 < m.lowest ∧
          s' = s.stored m k rc' (some m.lowest) m.num (((keysOf s.recs id).tail ++ [k]).head?.getD 0)) ∨
       (m.num + 1 ≤ (s.limitOf id).1 ∧ s' = s.stored m k rc' none (m.num + 1) (if m.lowest = 0 then k else m.lowest))) := by
  obtain ⟨_, m, _, hm, _, hk⟩ := RegState.record_ok h
  obtain rfl := (hi.reg.idsBelowNext id m hm).1
  obtain ⟨hbl, hbn⟩ := hb.2 _ m hm
  obtain ⟨hz, hle⟩ := hi.lowest_zero hm
  have hcase := hi.full_or_room hm
  cases hkind : s.kind <;> rw [hkind] at hk
  · obtain ⟨hgt, rfl, rfl⟩ := hk
    refine ⟨m, wrkRec rc now k, hm, rfl, hgt, rfl, by rw [RegState.Stores, hkind]; exact ⟨rfl, rfl⟩, ?_⟩
    rw [recordWrk_eq, addU64_small _ _ hbn, subU64_succ]
    rcases hcase with ⟨hfull, hlow⟩ | hroom
    · rw [if_pos ⟨hfull ▸ Nat.lt_succ_self _, hlow⟩]
      refine Or.inl ⟨hfull, hlow, congrArg (s.stored m k _ _ _) ?_⟩
      -- the lowest key found in the store after insertion and pruning heads its key list, which `stored_keysOf` gives (the
      -- counters passed to `stored` there play no role: they are not in the records)
      refine (lowestRetained_sorted _ (sorted_erase _ _ (sorted_insertRec _ _ _ hi.reg.sortedRecs)) _).trans ?_
      exact congrArg (·.head?.getD 0) (((stored_keysOf _ (some m.lowest) 0 0 hi.reg hm hgt m.id).trans (if_pos rfl)).trans
        (hi.pruned_keys hm hlow k).1)
    · rw [if_neg (fun h => Nat.not_lt.mpr hroom h.1)]; exact Or.inr ⟨hroom, rfl⟩
  · obtain ⟨hsz, heq⟩ := hk
    rw [recordBcn_eq s m _ _ ⟨hbl, hbn⟩ (Nat.lt_of_le_of_lt (Nat.succ_le_succ hle) hbl) hz.mp (hi.reg.one_le_limit hm),
      Prod.mk.injEq] at heq
    obtain ⟨rfl, rfl⟩ := heq
    refine ⟨m, _, hm, rfl, Nat.lt_succ_self _, rfl, by rw [RegState.Stores, hkind]; exact ⟨rfl, rfl, hsz⟩, ?_⟩
    rcases hcase with ⟨hfull, hlow⟩ | hroom
    · rw [if_pos (hfull ▸ Nat.lt_succ_self _), hi.bcn_next_lowest hkind hm hlow]
      exact Or.inl ⟨hfull, hlow, rfl⟩
    · rw [if_neg (Nat.not_lt.mpr hroom)]; exact Or.inr ⟨hroom, rfl⟩

/-- what every consequence that does not look at the counters needs from `record_shape` -/
theorem record_stored {s : RegState} {now wall id key : Nat} {rc : Rec} {o : AddrTok} {s' : RegState} {k : Nat}
    (hi : RegAll s) (hb : RegBounded s) (h : s.record now wall id key rc o = .ok (s', k)) :
    ∃ m rc' drop n l, find? s.regs id = some m ∧ m.id = id ∧ m.last < k ∧ (∀ d ∈ drop, d ≤ m.last) ∧
      s.Stores now wall key rc m k rc' ∧ s' = s.stored m k rc' drop n l := by
  obtain ⟨m, rc', hm, hid, hgt, _, hst, hsh⟩ := record_shape hi hb h
  rcases hsh with ⟨_, hlow, rfl⟩ | ⟨_, rfl⟩
  · refine ⟨m, rc', _, _, _, hm, hid, hgt, fun d hd => ?_, hst, rfl⟩
    cases hd; exact (hi.lowest_zero hm).2
  · exact ⟨m, rc', none, _, _, hm, hid, hgt, nofun, hst, rfl⟩

theorem RegInv.fresh {s : RegState} (hi : RegInv s) : find? s.regs s.nextId = none ∧ keysOf s.recs s.nextId = [] := by
  have hf : find? s.regs s.nextId = none := by
    cases hf : find? s.regs s.nextId with
    | none => rfl
    | some m => exact absurd (hi.idsBelowNext _ _ hf).2 (Nat.lt_irrefl _)
  refine ⟨hf, List.eq_nil_iff_forall_not_mem.mpr (fun k hk => ?_)⟩
  obtain ⟨r, hr⟩ := find_some_of_mem _ _ ((mem_keysOf _ _ _).mp hk)
  obtain ⟨m, hm, _⟩ := hi.recsBounded _ _ r hr
  rw [hf] at hm; cases hm

theorem registered_regAll (s : RegState) (now : Nat) (mk nm gn ty : String) (oa : Addr) (hi : RegAll s)
    (hb : s.nextId + 1 < two64) : RegAll (s.registered now mk nm gn ty oa) := by
  obtain ⟨hfresh, hnokeys⟩ := hi.reg.fresh
  have hk : s.nextId ∉ keys s.regs := (find_eq_none_iff _ _).mp hfresh
  have hne : ∀ id m, find? s.regs id = some m → s.nextId ≠ id := fun id m hm e => by
    rw [← e, hfresh] at hm; cases hm
  have hnext : (s.registered now mk nm gn ty oa).nextId = s.nextId + 1 := addU64_small _ _ hb
  refine ⟨⟨nodup_insert _ _ _ hi.reg.nodupRegs, nodup_insert _ _ _ hi.reg.nodupLimits, hi.reg.sortedRecs, ?_, ?_, ?_,
    hi.reg.paramsValid⟩, ⟨hi.cnt.sorted, ?_, ?_, ?_⟩, fun hkind => ?_, ?_, ?_⟩
  · exact forall_find_insert _ _ _ ⟨rfl, hnext ▸ Nat.lt_succ_self _⟩ (fun id m _ hm =>
      ⟨(hi.reg.idsBelowNext id m hm).1, hnext ▸ Nat.lt_succ_of_lt (hi.reg.idsBelowNext id m hm).2⟩)
  · refine forall_find_insert _ _ _ ⟨_, find_insert_eq _ _ _, validate_defLimit _ hi.reg.paramsValid⟩ (fun id m hne => ?_)
    rw [show find? (s.registered now mk nm gn ty oa).limits id = find? s.limits id from find_insert_ne _ _ _ _ hne]
    exact hi.reg.hasLimit id m
  · intro id k r hr
    obtain ⟨m, hm, h⟩ := hi.reg.recsBounded id k r hr
    exact ⟨m, (find_insert_ne _ _ _ _ (hne id m hm)).trans hm, h⟩
  · exact forall_find_insert _ _ _ (congrArg List.length hnokeys).symm (fun id m _ hm => hi.cnt.num id m hm)
  · exact forall_find_insert _ _ _ (congrArg (·.head?.getD 0) hnokeys).symm (fun id m _ hm => hi.cnt.lowest id m hm)
  · exact forall_find_insert _ _ _ (Nat.zero_le _) (fun id m hne hm => by
      rw [limitOf_insert (s := s) rfl, if_neg hne]; exact hi.cnt.withinLimit id m hm)
  · exact forall_find_insert _ _ _ ⟨fun _ => rfl, fun h => absurd h (Nat.lt_irrefl 0)⟩ (fun id m _ hm => hi.bcn hkind id m hm)
  · exact asc_keys_insert _ _ _ hi.canon.regsAsc fun x v hv => (hi.reg.idsBelowNext x v hv).2
  · show keys (insert s.limits s.nextId _) = keys (insert s.regs s.nextId _)
    rw [insert_of_not_mem _ _ _ hk, insert_of_not_mem _ _ _ (hi.canon.limits ▸ hk), keys_append, keys_append, hi.canon.limits]
    rfl

theorem bought_regAll (s : RegState) (id after : Nat) (m : RegMeta) (hi : RegAll s) (hm : find? s.regs id = some m)
    (hle : (s.limitOf id).1 ≤ after) : RegAll { s with limits := insert s.limits id after } := by
  refine ⟨⟨hi.reg.nodupRegs, nodup_insert _ _ _ hi.reg.nodupLimits, hi.reg.sortedRecs, hi.reg.idsBelowNext, fun j mj hj => ?_,
    hi.reg.recsBounded, hi.reg.paramsValid⟩, ⟨hi.cnt.sorted, hi.cnt.num, hi.cnt.lowest, fun j mj hj => ?_⟩, hi.bcn,
    hi.canon.regsAsc, ?_⟩
  · show ∃ x, find? (insert s.limits id after) j = some x ∧ 1 ≤ x
    rw [find_insert]
    split
    · exact ⟨_, rfl, Nat.le_trans (hi.reg.one_le_limit hm) hle⟩
    · exact hi.reg.hasLimit j mj hj
  · rw [limitOf_insert (s := s) rfl]
    split
    · rename_i e; subst e; cases hm.symm.trans hj
      exact Nat.le_trans (hi.cnt.withinLimit id m hm) hle
    · exact hi.cnt.withinLimit j mj hj
  · show keys (insert s.limits id after) = keys s.regs
    rw [keys_insert_of_mem _ _ _ (hi.canon.limits ▸ mem_keys_of_find _ _ _ hm)]; exact hi.canon.limits

theorem stored_regInv (s : RegState) (m : RegMeta) (k : Nat) (rc : Rec) (drop : Option Nat) (n l : Nat) (hi : RegInv s)
    (hm : find? s.regs m.id = some m) (hk : m.last < k) (hkey : rc.key = k) : RegInv (s.stored m k rc drop n l) := by
  refine ⟨nodup_insert _ _ _ hi.nodupRegs, hi.nodupLimits, ?_,
    forall_find_insert _ _ _ ⟨rfl, (hi.idsBelowNext _ _ hm).2⟩ (fun id m' _ hm' => hi.idsBelowNext id m' hm'),
    forall_find_insert _ _ _ (hi.hasLimit _ _ hm) (fun id m' _ hm' => hi.hasLimit id m' hm'), fun id x r hr => ?_, hi.paramsValid⟩
  · have := sorted_insertRec s.recs (m.id, k) rc hi.sortedRecs
    cases drop with
    | none => exact this
    | some d => exact sorted_erase _ _ this
  · -- a record of the new state is the new one, or an old one, whose registration is still there
    rw [find_stored_recs hi.sortedRecs] at hr
    split at hr
    · cases hr
    · split at hr
      · rename_i e; cases hr; cases e
        exact ⟨_, find_insert_eq _ _ _, Nat.succ_le_of_lt (Nat.zero_lt_of_lt hk), Nat.le_refl _, hkey⟩
      · obtain ⟨m2, hm2, h1, h2, h3⟩ := hi.recsBounded id x r hr
        obtain ⟨m', hm', hle, _⟩ := stored_regs_mono s m k rc drop n l hm (Nat.le_of_lt hk) id m2 hm2
        exact ⟨m', hm', h1, Nat.le_trans h2 hle, h3⟩

/-- `L` : the keys of the registration after the write.  It is a parameter, tied by `hL`, because the two callers know it in
different forms: the pruning one as `(keysOf s.recs m.id).tail ++ [k]` (`pruned_keys`), on which its `n` and `l` are counted,
the appending one as the left-hand side of `hL` itself (`rfl`). -/
theorem stored_regAll {s : RegState} {m : RegMeta} {k : Nat} {rc : Rec} {drop : Option Nat} {n l : Nat} {L : List Nat}
    (hi : RegAll s) (hm : find? s.regs m.id = some m) (hk : m.last < k) (hkey : rc.key = k)
    (hL : (match drop with
           | none => keysOf s.recs m.id ++ [k]
           | some d => (keysOf s.recs m.id ++ [k]).erase d) = L)
    (hn : n = L.length) (hl : l = L.head?.getD 0) (hlim : n ≤ (s.limitOf m.id).1)
    (hbcn : s.kind = .bcn → 0 < n ∧ l + n = k + 1) : RegAll (s.stored m k rc drop n l) := by
  have hreg := stored_regInv s m k rc drop n l hi.reg hm hk hkey
  have hkeys := stored_keysOf rc drop n l hi.reg hm hk
  have hnew : keysOf (s.stored m k rc drop n l).recs m.id = L := by rw [hkeys, if_pos rfl]; exact hL
  have hold : ∀ j, m.id ≠ j → keysOf (s.stored m k rc drop n l).recs j = keysOf s.recs j := fun j hj => by
    rw [hkeys, if_neg (Ne.symm hj)]
  refine ⟨hreg, ⟨fun id => keysOf_sorted _ hreg.sortedRecs id, ?_, ?_, ?_⟩, fun hkind => ?_, ?_, hi.canon.limits.trans ?_⟩
  · exact forall_find_insert _ _ _ (by rw [hnew]; exact hn) (fun j mj hj hmj => by rw [hold j hj]; exact hi.cnt.num j mj hmj)
  · exact forall_find_insert _ _ _ (by rw [hnew]; exact hl) (fun j mj hj hmj => by rw [hold j hj]; exact hi.cnt.lowest j mj hmj)
  · exact forall_find_insert _ _ _ hlim (fun j mj _ hmj => hi.cnt.withinLimit j mj hmj)
  · exact forall_find_insert _ _ _ ⟨fun h0 => absurd h0 (Nat.ne_of_gt (hbcn hkind).1), fun _ => (hbcn hkind).2⟩
      (fun j mj _ hmj => hi.bcn hkind j mj hmj)
  · show Asc (keys (insert s.regs m.id _))
    rw [keys_insert_of_mem _ _ _ (mem_keys_of_find _ _ _ hm)]; exact hi.canon.regsAsc
  · exact (keys_insert_of_mem _ _ _ (mem_keys_of_find _ _ _ hm)).symm

theorem record_regAll {s : RegState} {now wall id key : Nat} {rc : Rec} {o : AddrTok} {s' : RegState} {k : Nat}
    (hi : RegAll s) (hb : RegBounded s) (h : s.record now wall id key rc o = .ok (s', k)) : RegAll s' := by
  obtain ⟨m, rc', hm, rfl, hgt, hkey, hst, hsh⟩ := record_shape hi hb h
  have hk : s.kind = .bcn → k = m.last + 1 := fun hkd => (hst.bcn hkd).1
  rcases hsh with ⟨hfull, hlow, rfl⟩ | ⟨hroom, rfl⟩
  · obtain ⟨hL, hn⟩ := hi.pruned_keys hm hlow k
    refine stored_regAll hi hm hgt hkey hL hn rfl (Nat.le_of_eq hfull) (fun hkd => ?_)
    rw [hk hkd, hi.bcn_next_lowest hkd hm hlow]
    exact (hi.bcn_step hkd hm).1 hlow
  · obtain ⟨hn, hl⟩ := hi.appended_keys hm k
    refine stored_regAll hi hm hgt hkey rfl hn hl hroom (fun hkd => ?_)
    rw [hk hkd]
    exact ⟨Nat.succ_pos _, (hi.bcn_step hkd hm).2⟩

end Mainchain
