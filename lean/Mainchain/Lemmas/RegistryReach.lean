import Mainchain.Lemmas.Fine
import Mainchain.Lemmas.RegistryInv
namespace Mainchain
open AL

theorem fineStep_reg (k : RegKind) {s s' : State} (h : FineStep s s') :
    (s'.reg k = s.reg k) ∨ (∃ wall, RegOp s.nowSecU wall (s.reg k) (s'.reg k)) := by
  cases h with
  | leaf wall m r hl _ _ h =>
    have h := FineStep.leafStep hl h
    cases h with
    | ent e _ hs => subst hs; exact Or.inl (by cases k <;> rfl)
    | reg k' r hop hs =>
      subst hs; rw [reg_setReg]
      by_cases hk : k' = k
      · subst hk; rw [if_pos rfl]; exact Or.inr ⟨wall, hop⟩
      · rw [if_neg hk]; exact Or.inl rfl
    | str x _ hs => subst hs; exact Or.inl (by cases k <;> rfl)
    | strParams fee _ hs => subst hs; exact Or.inl (by cases k <;> rfl)
    | send a b coins bank _ _ hs => subst hs; exact Or.inl (by cases k <;> rfl)
    | authz ea g hs => subst hs; exact Or.inl (by cases k <;> rfl)
    | feegrant ea al hs => subst hs; exact Or.inl (by cases k <;> rfl)
    | revoke g hs => subst hs; exact Or.inl (by cases k <;> rfl)
  | ante tx _ _ h =>
    cases h with
    | none hs => subst hs; exact Or.inl rfl
    | unlock payer x _ _ _ _ hs => subst hs; exact Or.inl (by cases k <;> rfl)
    | deduct _ _ _ _ _ _ hs => subst hs; exact Or.inl (by cases k <;> rfl)
  | time t _ hs => subst hs; exact Or.inl (by cases k <;> rfl)
  | complete id x _ hs => subst hs; exact Or.inl (by cases k <;> rfl)
  | tally id e _ hs => subst hs; exact Or.inl (by cases k <;> rfl)

theorem regAll_op (now wall : Nat) (a b : RegState) (hi : RegAll a) (hb : RegBounded a) (h : RegOp now wall a b) :
    RegAll b ∧ b.kind = a.kind := by
  cases h with
  | register mk nm gn ty o id h =>
    obtain ⟨oa, _, rfl, _⟩ := RegState.register_ok h
    exact ⟨registered_regAll a now mk nm gn ty oa hi hb.1, rfl⟩
  | record id key rc o k h => exact ⟨record_regAll hi hb h, (record_frame h).kind⟩
  | purchase id n o can h =>
    obtain ⟨oa, m, _, hm, _, _, hle, _, rfl, _⟩ := RegState.purchase_ok h
    exact ⟨bought_regAll a id _ m hi hm hle, rfl⟩
  | setParams p h =>
    obtain ⟨hv, rfl⟩ := RegState.setParams_ok h
    exact ⟨⟨⟨hi.reg.nodupRegs, hi.reg.nodupLimits, hi.reg.sortedRecs, hi.reg.idsBelowNext, hi.reg.hasLimit,
      hi.reg.recsBounded, hv⟩, ⟨hi.cnt.sorted, hi.cnt.num, hi.cnt.lowest, hi.cnt.withinLimit⟩, hi.bcn, hi.canon.1, hi.canon.2⟩, rfl⟩

/-- scenario genesis validity (what `ValidateGenesis` + `InitGenesis` accept) for the registries -/
def GenRegValid (g : GenCfg) : Prop := g.wrk.validate = true ∧ g.bcn.validate = true

theorem regAll_empty (k : RegKind) (p : RegParams) (n : Nat) (hv : p.validate = true) :
    RegAll { kind := k, params := p, nextId := n } := by
  refine ⟨⟨List.nodup_nil, List.nodup_nil, List.Pairwise.nil, ?_, ?_, ?_, hv⟩, ⟨fun _ => List.Pairwise.nil, ?_, ?_, ?_⟩, ?_,
    List.Pairwise.nil, rfl⟩ <;> intros <;> contradiction

def BcnQ (s : State) : Prop := RegBounded s.bcn

def WrkQ (s : State) : Prop := RegBounded s.wrk

/-- history assumption of the registry properties: `RegBounded` of either module -/
def RegQ (s : State) : Prop := RegBounded s.wrk ∧ RegBounded s.bcn

theorem RegQ.reg {s : State} (hq : RegQ s) (k : RegKind) : RegBounded (s.reg k) := by
  cases k
  · exact hq.1
  · exact hq.2

theorem regAll_reachable (g : GenCfg) (hg : GenRegValid g) (k : RegKind) (s : State)
    (h : FineReach g (fun s => RegBounded (s.reg k)) s) : RegAll (s.reg k) ∧ (s.reg k).kind = k := by
  refine fine_inv g _ (fun s => RegAll (s.reg k) ∧ (s.reg k).kind = k) ?_ ?_ s h
  · cases k
    · exact ⟨regAll_empty .wrk g.wrk g.wrkStart hg.1, rfl⟩
    · exact ⟨regAll_empty .bcn g.bcn g.bcnStart hg.2, rfl⟩
  · intro s s' hq hi hs
    rcases fineStep_reg k hs with he | ⟨wall, hop⟩
    · rw [he]; exact hi
    · obtain ⟨h1, h2⟩ := regAll_op _ wall _ _ hi.1 hq hop
      exact ⟨h1, h2.trans hi.2⟩

theorem regAll_of_regQ (g : GenCfg) (hg : GenRegValid g) (s : State) (h : FineReach g RegQ s) (k : RegKind) :
    RegAll (s.reg k) ∧ (s.reg k).kind = k :=
  regAll_reachable g hg k s (h.weaken (fun _ hq => hq.reg k))

theorem wrkAll_reachable (g : GenCfg) (hg : GenRegValid g) (s : State) (h : FineReach g RegQ s) :
    RegAll s.wrk ∧ s.wrk.kind = .wrk := regAll_of_regQ g hg s h .wrk

theorem bcnAll_reachable (g : GenCfg) (hg : GenRegValid g) (s : State) (h : FineReach g RegQ s) :
    RegAll s.bcn ∧ s.bcn.kind = .bcn := regAll_of_regQ g hg s h .bcn

/-- a record key at or below the registration's `last` keeps its content or disappears (pruned): it is never overwritten
and never comes back -/
def RecsStable (a b : RegState) : Prop :=
  (∀ id m, find? a.regs id = some m → ∃ m', find? b.regs id = some m' ∧ m.last ≤ m'.last ∧ m.Frozen m') ∧
  (∀ id k m, find? a.regs id = some m → k ≤ m.last →
      find? b.recs (id, k) = find? a.recs (id, k) ∨ find? b.recs (id, k) = none)

theorem RecsStable.of_eq {a b : RegState} (hregs : ∀ id m, find? a.regs id = some m → find? b.regs id = some m)
    (hrecs : b.recs = a.recs) : RecsStable a b :=
  ⟨fun id m hm => ⟨m, hregs id m hm, Nat.le_refl _, .refl m⟩, fun _ _ _ _ _ => Or.inl (by rw [hrecs])⟩

theorem RecsStable.trans {a b c : RegState} (h1 : RecsStable a b) (h2 : RecsStable b c) : RecsStable a c := by
  constructor
  · intro id m hm
    obtain ⟨m1, hm1, hl1, hf1⟩ := h1.1 id m hm
    obtain ⟨m2, hm2, hl2, hf2⟩ := h2.1 id m1 hm1
    exact ⟨m2, hm2, Nat.le_trans hl1 hl2, hf1.trans hf2⟩
  · intro id k m hm hk
    obtain ⟨m1, hm1, hl1, _⟩ := h1.1 id m hm
    rcases h2.2 id k m1 hm1 (Nat.le_trans hk hl1) with e2 | e2
    · exact (h1.2 id k m hm hk).elim (fun e => Or.inl (e2.trans e)) (fun e => Or.inr (e2.trans e))
    · exact Or.inr e2

theorem recsStable_op (now wall : Nat) (a b : RegState) (hi : RegAll a) (hb : RegBounded a) (h : RegOp now wall a b) :
    RecsStable a b := by
  cases h with
  | register mk nm gn ty o id h =>
    obtain ⟨oa, _, rfl, _⟩ := RegState.register_ok h
    refine .of_eq (fun id m hm => (find_insert_ne _ _ _ _ (fun e => ?_)).trans hm) rfl
    rw [← e, hi.reg.fresh.1] at hm; cases hm
  | record id key rc o k h =>
    obtain ⟨m, rc', drop, n, l, hm, rfl, hgt, _, _, rfl⟩ := record_stored hi hb h
    refine ⟨stored_regs_mono a m k rc' drop n l hm (Nat.le_of_lt hgt), fun id x m0 hm0 hx => ?_⟩
    rw [find_stored_recs hi.reg.sortedRecs]
    split
    · exact Or.inr rfl
    · split
      · rename_i e; cases e; cases hm.symm.trans hm0; exact absurd hx (Nat.not_le.mpr hgt)
      · exact Or.inl rfl
  | purchase id n o can h =>
    obtain ⟨_, _, _, _, _, _, _, _, rfl, _⟩ := RegState.purchase_ok h
    exact .of_eq (fun _ _ hm => hm) rfl
  | setParams p h =>
    obtain ⟨_, rfl⟩ := RegState.setParams_ok h
    exact .of_eq (fun _ _ hm => hm) rfl

theorem registries_stable (g : GenCfg) (hg : GenRegValid g) (a b : State)
    (ha : FineReach g RegQ a) (hp : FinePathQ RegQ a b) (k : RegKind) : RecsStable (a.reg k) (b.reg k) := by
  refine path_rel (fun x y => RecsStable (x.reg k) (y.reg k))
    (fun s => .of_eq (fun _ _ hm => hm) rfl) (fun _ _ _ h1 h2 => h1.trans h2) ?_ ha hp
  intro x y hx hq hs
  rcases fineStep_reg k hs with he | ⟨wall, hop⟩
  · rw [he]; exact .of_eq (fun _ _ hm => hm) rfl
  · exact recsStable_op _ wall _ _ (regAll_of_regQ g hg x hx k).1 (hq.reg k) hop

end Mainchain
