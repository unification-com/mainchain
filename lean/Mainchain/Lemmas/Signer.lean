import Mainchain.Model.Tx
import Mainchain.Lemmas.Monad
import Mainchain.Lemmas.AList
/-
`GetSigners()[0]` of every message kind.  `Msg.signerTok` reads it, for the four custom modules, from the
regenerated table `Facts.signerField`; `Msg.signerTok_eq` evaluates that table once: if a `GetSigners`
implementation in the repository starts returning another field, it (and with it C13, C10, C04 …) stops checking.
-/
namespace Mainchain

/-- the address field that `GetSigners` returns first, per message kind -/
@[simp] def Msg.signerArg : Msg → AddrTok
  | .entRaise p _ _ => p
  | .entDecide _ _ s | .entWl _ _ s => s
  | .entParams a _ | .regParams _ a _ | .strParams a _ => a
  | .regReg _ _ _ _ _ o | .regRec _ _ _ _ o | .regBuy _ _ _ o => o
  | .strClaim r _ => r
  | .strCreate _ s _ _ _ | .strTopup _ s _ _ | .strRate _ s _ | .strCancel _ s => s
  | .bankSend s _ _ => s
  | .authzGrant g _ _ | .authzRevoke g _ _ | .authzExec g _ | .feegrantGrant g _ => g

/-- The table look-ups are rewritten with the two `find_cons` lemmas and `String.reduceEq`: evaluating `AL.find?` on the
table by `rfl` or `decide` compares the UTF-8 bytes of up to eighteen keys per message kind and costs several times as
much.  They are rewritten under a `bind` (`look`), not where they stand in `signerTok`: there the look-up is the
discriminant of a `match`, which `simp` rewrites at three times the cost. -/
@[simp] theorem Msg.signerTok_eq (m : Msg) : m.signerTok = some m.signerArg := by
  have look : m.signerTok = some m.signerArg ∨
      (AL.find? Facts.signerField m.goType).bind m.field = some m.signerArg := by
    cases m with
    | bankSend | authzGrant | authzRevoke | authzExec | feegrantGrant => exact .inl rfl
    | _ =>
      right
      try cases ‹RegKind›
      all_goals
        simp only [Msg.goType, Facts.signerField, AL.find_cons_self, AL.find_cons_ne, ne_eq, String.reduceEq,
          not_false_eq_true, Option.bind_some]
        rfl
  rcases look with h | h
  · exact h
  · unfold Msg.signerTok
    split
    iterate 5 rfl
    cases hx : AL.find? Facts.signerField m.goType with
    | none => rw [hx] at h; cases h
    | some f => rw [hx] at h; exact h

@[simp] theorem signerTok_bankSend (a b : AddrTok) (c : Coins) : (Msg.bankSend a b c).signerTok = some a := rfl
@[simp] theorem signerTok_authzGrant (a b : AddrTok) (k : String) : (Msg.authzGrant a b k).signerTok = some a := rfl
@[simp] theorem signerTok_authzRevoke (a b : AddrTok) (k : String) : (Msg.authzRevoke a b k).signerTok = some a := rfl
@[simp] theorem signerTok_authzExec (a : AddrTok) (ms : List Msg) : (Msg.authzExec a ms).signerTok = some a := rfl
@[simp] theorem signerTok_feegrantGrant (a b : AddrTok) : (Msg.feegrantGrant a b).signerTok = some a := rfl

theorem Msg.signer_eq (m : Msg) : m.signer = m.signerArg.decode := by
  simp only [Msg.signer, Msg.signerTok_eq, Option.bind_some]

theorem Msg.signerM_iff (m : Msg) (a : Addr) : m.signerM = .ok a ↔ m.signer = some a := by
  unfold Msg.signerM
  cases m.signer <;> simp

/-- each `ValidateBasic` begins by decoding the signer field -/
theorem validateBasic_signer (s : State) (m : Msg) (h : Msg.validateBasic s m = .ok ()) : ∃ a, m.signer = some a := by
  rw [Msg.signer_eq]
  cases m <;> exact ((bind_eq_ok ..).mp h).imp fun _ ha => (decodeM_eq_ok ..).mp ha.1

end Mainchain
