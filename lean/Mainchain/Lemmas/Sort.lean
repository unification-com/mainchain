import Mainchain.Lemmas.AList
namespace Mainchain

theorem perm_insertLe (x : Nat) (l : List Nat) : (insertLe x l).Perm (x :: l) := by
  induction l with
  | nil => exact .refl _
  | cons z zs ih =>
    simp only [insertLe]
    split
    · exact .refl _
    · exact (ih.cons z).trans (.swap x z zs)

theorem perm_isort (l : List Nat) : (isort l).Perm l := by
  induction l with
  | nil => exact .refl _
  | cons x xs ih => exact (perm_insertLe x _).trans (ih.cons x)

theorem mem_isort (l : List Nat) (y : Nat) : y ∈ isort l ↔ y ∈ l := (perm_isort l).mem_iff

theorem length_isort (l : List Nat) : (isort l).length = l.length := (perm_isort l).length_eq

theorem sorted_insertLe (x : Nat) (l : List Nat) (h : l.Pairwise (· ≤ ·)) : (insertLe x l).Pairwise (· ≤ ·) := by
  induction l with
  | nil => exact List.pairwise_singleton _ _
  | cons z zs ih =>
    have hp := List.pairwise_cons.mp h
    simp only [insertLe]
    split
    · rename_i hxz
      refine List.pairwise_cons.mpr ⟨fun a ha => ?_, h⟩
      rcases List.mem_cons.mp ha with rfl | ha
      · exact hxz
      · exact Nat.le_trans hxz (hp.1 a ha)
    · rename_i hxz
      refine List.pairwise_cons.mpr ⟨fun a ha => ?_, ih hp.2⟩
      rcases List.mem_cons.mp ((perm_insertLe x zs).mem_iff.mp ha) with rfl | ha
      · exact Nat.le_of_not_le hxz
      · exact hp.1 a ha

theorem sorted_isort (l : List Nat) : (isort l).Pairwise (· ≤ ·) := by
  induction l with
  | nil => exact .nil
  | cons x xs ih => exact sorted_insertLe x _ ih

theorem isort_of_sorted (l : List Nat) (h : l.Pairwise (· ≤ ·)) : isort l = l := by
  induction l with
  | nil => rfl
  | cons x xs ih =>
    have hp := List.pairwise_cons.mp h
    simp only [isort, ih hp.2]
    cases xs with
    | nil => rfl
    | cons z zs => exact if_pos (hp.1 z (List.mem_cons_self ..))

def Asc (l : List Nat) : Prop := l.Pairwise (· < ·)

theorem asc_filter (p : Nat → Bool) (l : List Nat) (h : Asc l) : Asc (l.filter p) := List.Pairwise.filter p h

theorem asc_keys_insert {ν : Type} (m : List (Nat × ν)) (x : Nat) (w : ν) (h : Asc (AL.keys m))
    (hx : ∀ y v, AL.find? m y = some v → y < x) : Asc (AL.keys (AL.insert m x w)) := by
  have hk : x ∉ AL.keys m := fun hm => by
    obtain ⟨v, hv⟩ := AL.find_some_of_mem _ _ hm
    exact Nat.lt_irrefl _ (hx x v hv)
  rw [AL.insert_of_not_mem _ _ _ hk, AL.keys_append]
  refine List.pairwise_append.mpr ⟨h, List.pairwise_singleton _ _, fun y hy z hz => ?_⟩
  obtain ⟨v, hv⟩ := AL.find_some_of_mem _ _ hy
  rw [List.mem_singleton.mp hz]; exact hx y v hv

theorem asc_nodup (l : List Nat) (h : Asc l) : l.Nodup :=
  List.Pairwise.imp (fun hab => Nat.ne_of_lt hab) h

theorem asc_ext (l1 l2 : List Nat) (h1 : Asc l1) (h2 : Asc l2) (h : ∀ x, x ∈ l1 ↔ x ∈ l2) : l1 = l2 :=
  ((List.perm_ext_iff_of_nodup (asc_nodup _ h1) (asc_nodup _ h2)).mpr h).eq_of_pairwise
    (le := (· < ·)) (fun _ _ _ _ hab hba => absurd hba (Nat.lt_asymm hab)) h1 h2

theorem isort_of_asc (l : List Nat) (h : Asc l) : isort l = l :=
  isort_of_sorted l (List.Pairwise.imp (fun {a b} (hab : a < b) => Nat.le_of_lt hab) h)

theorem asc_eq_range' : ∀ (l : List Nat) (a : Nat), Asc l → (∀ x ∈ l, a ≤ x ∧ x < a + l.length) → l = List.range' a l.length
  | [], _, _, _ => rfl
  | x :: xs, a, h, hb => by
    have h' := List.pairwise_cons.mp h
    simp only [List.length_cons] at hb ⊢
    have hx := hb x (List.mem_cons_self ..)
    have ih := asc_eq_range' xs (a + 1) h'.2 (fun y hy => by
      have := hb y (List.mem_cons_of_mem _ hy); have := h'.1 y hy; omega)
    -- the tail is `range' (a+1) …` by induction, so it contains `a + 1` (if non-empty), which the head must be below
    have hxa : x = a := by
      cases hn : xs.length with
      | zero => rw [hn] at hx; omega
      | succ n =>
        have : a + 1 ∈ xs := by rw [ih, hn, List.mem_range'_1]; omega
        have := h'.1 _ this; omega
    rw [hxa, List.range'_succ, ← ih]

end Mainchain
