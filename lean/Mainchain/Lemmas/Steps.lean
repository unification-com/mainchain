import Mainchain.Lemmas.Exec
/-
`execMsg` is read once, message by message (`MsgExec`); `LeafStep` is the coarser view that forgets the message: which
component of the state a leaf message can change, and through which module operation.
-/
namespace Mainchain

inductive MsgExec (wall : Nat) (s : State) : Msg → State → Prop where
  | entRaise {p amt denom e id} (h : s.ent.raise s.nowSecU p denom amt = .ok (e, id)) :
      MsgExec wall s (.entRaise p amt denom) { s with ent := e }
  | entDecide {id dec sg e} (h : s.ent.decide_ s.nowSecU id dec sg = .ok e) :
      MsgExec wall s (.entDecide id dec sg) { s with ent := e }
  | entWl {action a sg e} (h : s.ent.whitelistMsg action a sg = .ok e) :
      MsgExec wall s (.entWl action a sg) { s with ent := e }
  | entParams {auth p e} (ha : auth = AddrTok.canon Mgov) (h : s.ent.setParams p = .ok e) :
      MsgExec wall s (.entParams auth p) { s with ent := e }
  | regReg {k moniker name genesis type o r id} (h : (s.reg k).register s.nowSecU moniker name genesis type o = .ok (r, id)) :
      MsgExec wall s (.regReg k moniker name genesis type o) (s.setReg k r)
  | regRec {k id key rc o r n} (h : (s.reg k).record s.nowSecU wall id key rc o = .ok (r, n)) :
      MsgExec wall s (.regRec k id key rc o) (s.setReg k r)
  | regBuy {k id n o r can} (h : (s.reg k).purchase id n o = .ok (r, can)) :
      MsgExec wall s (.regBuy k id n o) (s.setReg k r)
  | regParams {k auth p r} (ha : auth = AddrTok.canon Mgov) (h : (s.reg k).setParams p = .ok r) :
      MsgExec wall s (.regParams k auth p) (s.setReg k r)
  | strCreate {r sn amt denom rate x} (h : createStream (toSB s) s.time isBlocked r sn denom amt rate = .ok x) :
      MsgExec wall s (.strCreate r sn amt denom rate) (liftSB s x)
  | strClaim {r sn x o} (h : claimStream (toSB s) s.time isBlocked r sn = .ok (x, o)) :
      MsgExec wall s (.strClaim r sn) (liftSB s x)
  | strTopup {r sn amt denom x d z} (h : topUpDeposit (toSB s) s.time isBlocked r sn denom amt = .ok (x, d, z)) :
      MsgExec wall s (.strTopup r sn amt denom) (liftSB s x)
  | strRate {r sn rate x} (h : updateFlowRate (toSB s) s.time isBlocked r sn rate = .ok x) :
      MsgExec wall s (.strRate r sn rate) (liftSB s x)
  | strCancel {r sn x} (h : cancelStreamMsg (toSB s) s.time isBlocked r sn = .ok x) :
      MsgExec wall s (.strCancel r sn) (liftSB s x)
  | strParams {auth fee} (ha : auth = AddrTok.canon Mgov) (hv : streamParamsValid fee = true) :
      MsgExec wall s (.strParams auth fee) { s with str := { s.str with fee := fee } }
  | bankSend {src dst coins a b bank} (ha : src.decode = some a) (hb : dst.decode = some b) (hbl : isBlocked b = false)
      (h : s.bank.sendCoins s.nowSec a b coins = .ok bank) : MsgExec wall s (.bankSend src dst coins) { s with bank := bank }
  | authzGrant {g e kind ga ea} (hg : g.decode = some ga) (he : e.decode = some ea) :
      MsgExec wall s (.authzGrant g e kind) { s with
        bank := s.bank.ensureAccount ea
        grants := if s.grants.contains (ga, ea, kind) then s.grants else s.grants ++ [(ga, ea, kind)] }
  | authzRevoke {g e kind ga ea} (hg : g.decode = some ga) (he : e.decode = some ea)
      (hc : s.grants.contains (ga, ea, kind) = true) :
      MsgExec wall s (.authzRevoke g e kind) { s with grants := s.grants.filter (· ≠ (ga, ea, kind)) }
  | authzExec {g msgs grantee s'} (hg : g.decode = some grantee) (h : dispatch wall grantee s msgs = .ok s') :
      MsgExec wall s (.authzExec g msgs) s'
  | feegrantGrant {g e ga ea} (hg : g.decode = some ga) (he : e.decode = some ea)
      (hc : s.allowances.contains (ga, ea) = false) :
      MsgExec wall s (.feegrantGrant g e) { s with bank := s.bank.ensureAccount ea, allowances := s.allowances ++ [(ga, ea)] }

theorem execMsg_ok {wall : Nat} {s s' : State} {m : Msg} {r : Resp} (h : execMsg wall s m = .ok (s', r)) :
    MsgExec wall s m s' := by
  cases m <;>
    simp only [execMsg, requireAuthority, bind_eq_ok, pure_eq_ok, Prod.mk.injEq, require_eq_ok, decodeM_eq_ok,
      decide_eq_true_eq, Bool.not_eq_true'] at h
  -- one module operation, whose result is stored
  case entRaise | entDecide | entWl | regReg | regRec | regBuy | strCreate | strClaim | strTopup | strRate | strCancel =>
    obtain ⟨x, hx, rfl, _⟩ := h; constructor; exact hx
  case entParams | regParams => obtain ⟨_, ha, x, hx, rfl, _⟩ := h; constructor <;> assumption
  case strParams => obtain ⟨_, ha, _, hv, rfl, _⟩ := h; exact .strParams ha hv
  case bankSend => obtain ⟨a, ha, b, hb, _, hbl, bank, hbank, rfl, _⟩ := h; exact .bankSend ha hb hbl hbank
  case authzGrant => obtain ⟨ga, hg, ea, he, rfl, _⟩ := h; exact .authzGrant hg he
  case authzRevoke => obtain ⟨ga, hg, ea, he, _, hc, rfl, _⟩ := h; exact .authzRevoke hg he hc
  case authzExec => obtain ⟨grantee, hg, s1, hd, rfl, _⟩ := h; exact .authzExec hg hd
  case feegrantGrant => obtain ⟨ga, hg, ea, he, _, hc, rfl, _⟩ := h; exact .feegrantGrant hg he hc

theorem reg_setReg (s : State) (k k' : RegKind) (r : RegState) : (s.setReg k' r).reg k = if k' = k then r else s.reg k := by
  cases k <;> cases k' <;> rfl

theorem ent_setReg (s : State) (k : RegKind) (r : RegState) : (s.setReg k r).ent = s.ent := by
  cases k <;> rfl

theorem toSB_setReg (s : State) (k : RegKind) (r : RegState) : toSB (s.setReg k r) = toSB s := by
  cases k <;> rfl

theorem time_setReg (s : State) (k : RegKind) (r : RegState) : (s.setReg k r).time = s.time := by
  cases k <;> rfl

inductive RegOp (now wall : Nat) (a b : RegState) : Prop where
  | register (moniker name genesis type : String) (o : AddrTok) (id : Nat)
      (h : a.register now moniker name genesis type o = .ok (b, id))
  | record (id key : Nat) (rc : Rec) (o : AddrTok) (k : Nat) (h : a.record now wall id key rc o = .ok (b, k))
  | purchase (id n : Nat) (o : AddrTok) (can : Nat) (h : a.purchase id n o = .ok (b, can))
  | setParams (p : RegParams) (h : a.setParams p = .ok b)

inductive EntOp (now : Nat) (a b : EntState) : Prop where
  | raise (p : AddrTok) (denom : String) (amt : Int) (id : Nat) (h : a.raise now p denom amt = .ok (b, id))
  | decide (id dec : Nat) (sg : AddrTok) (h : a.decide_ now id dec sg = .ok b)
  | whitelist (action : Nat) (addr sg : AddrTok) (h : a.whitelistMsg action addr sg = .ok b)
  | setParams (p : EntParams) (h : a.setParams p = .ok b)

inductive StreamOp (now : Int) (a b : SB) : Prop where
  | create (r s : AddrTok) (denom : String) (amt rate : Int) (h : createStream a now isBlocked r s denom amt rate = .ok b)
  | claim (r s : AddrTok) (o : ClaimOut) (h : claimStream a now isBlocked r s = .ok (b, o))
  | topup (r s : AddrTok) (denom : String) (amt : Int) (d z : Int) (h : topUpDeposit a now isBlocked r s denom amt = .ok (b, d, z))
  | rate (r s : AddrTok) (rate : Int) (h : updateFlowRate a now isBlocked r s rate = .ok b)
  | cancel (r s : AddrTok) (h : cancelStreamMsg a now isBlocked r s = .ok b)

inductive LeafStep (wall : Nat) (s s' : State) : Prop where
  | ent (e : EntState) (h : EntOp s.nowSecU s.ent e) (hs : s' = { s with ent := e })
  | reg (k : RegKind) (r : RegState) (h : RegOp s.nowSecU wall (s.reg k) r) (hs : s' = s.setReg k r)
  | str (x : SB) (h : StreamOp s.time (toSB s) x) (hs : s' = liftSB s x)
  | strParams (fee : Int) (hv : streamParamsValid fee = true) (hs : s' = { s with str := { s.str with fee := fee } })
  | send (a b : Addr) (coins : Coins) (bank : Bank) (hb : isBlocked b = false)
      (h : s.bank.sendCoins s.nowSec a b coins = .ok bank) (hs : s' = { s with bank := bank })
  | authz (ea : Addr) (g : List (Addr × Addr × String)) (hs : s' = { s with bank := s.bank.ensureAccount ea, grants := g })
  | feegrant (ea : Addr) (al : List (Addr × Addr)) (hs : s' = { s with bank := s.bank.ensureAccount ea, allowances := al })
  | revoke (g : List (Addr × Addr × String)) (hs : s' = { s with grants := g })

/-- what the `leaf` case of a `FineStep` (Lemmas/Fine) is read through -/
theorem FineStep.leafStep {s s' : State} {wall : Nat} {m : Msg} {r : Resp} (hl : m.isLeaf = true)
    (h : execMsg wall s m = .ok (s', r)) : LeafStep wall s s' := by
  cases execMsg_ok h with
  | entRaise hx => exact .ent _ (.raise _ _ _ _ hx) rfl
  | entDecide hx => exact .ent _ (.decide _ _ _ hx) rfl
  | entWl hx => exact .ent _ (.whitelist _ _ _ hx) rfl
  | entParams _ hx => exact .ent _ (.setParams _ hx) rfl
  | regReg hx => exact .reg _ _ (.register _ _ _ _ _ _ hx) rfl
  | regRec hx => exact .reg _ _ (.record _ _ _ _ _ hx) rfl
  | regBuy hx => exact .reg _ _ (.purchase _ _ _ _ hx) rfl
  | regParams _ hx => exact .reg _ _ (.setParams _ hx) rfl
  | strCreate hx => exact .str _ (.create _ _ _ _ _ hx) rfl
  | strClaim hx => exact .str _ (.claim _ _ _ hx) rfl
  | strTopup hx => exact .str _ (.topup _ _ _ _ _ _ hx) rfl
  | strRate hx => exact .str _ (.rate _ _ _ hx) rfl
  | strCancel hx => exact .str _ (.cancel _ _ hx) rfl
  | strParams _ hv => exact .strParams _ hv rfl
  | bankSend _ _ hbl hx => exact .send _ _ _ _ hbl hx rfl
  | authzGrant => exact .authz _ _ rfl
  | authzRevoke => exact .revoke _ rfl
  | authzExec => cases hl
  | feegrantGrant => exact .feegrant _ _ rfl

end Mainchain
