import Mainchain.Lemmas.StreamOps
namespace Mainchain
open AL

def OthersSame (x x' : SB) (r s : Addr) : Prop :=
  x'.str.fee = x.str.fee ∧ ∀ k, k ≠ (r, s) → find? x'.str.streams k = find? x.str.streams k

theorem OthersSame.refl (x : SB) (r s : Addr) : OthersSame x x r s := ⟨rfl, fun _ _ => rfl⟩

theorem OthersSame.trans {x y z : SB} {r s : Addr} (h1 : OthersSame x y r s) (h2 : OthersSame y z r s) : OthersSame x z r s :=
  ⟨h2.1.trans h1.1, fun k hk => (h2.2 k hk).trans (h1.2 k hk)⟩

theorem OthersSame.set {x x' : SB} {r s : Addr} {st : Stream} (h : x'.str = setStream x r s st) : OthersSame x x' r s := by
  unfold OthersSame; rw [h]; exact ⟨rfl, fun k hk => find_insert_ne _ _ _ _ (Ne.symm hk)⟩

theorem claim_frame {x x' : SB} {now : Int} {blocked : Addr → Bool} {r s : Addr} {o : ClaimOut}
    (h : claimFromStream x now blocked r s = .ok (x', o)) : OthersSame x x' r s := by
  obtain ⟨_, _, _, _, _, _, _, _, _, _, _, _, hstr⟩ := claim_iff.mp h
  exact OthersSame.set hstr

theorem Settles.frame {g : Prop} [Decidable g] {x y : SB} {now : Int} {blocked : Addr → Bool} {r s : Addr}
    (h : Settles g x now blocked r s y) : OthersSame x y r s :=
  h.elim (fun _ _ ho => claim_frame ho) (fun _ => OthersSame.refl x r s)

theorem addDeposit_frame {x x' : SB} {now : Int} {blocked : Addr → Bool} {r s : Addr} {denom : String} {amt : Int}
    (h : addDeposit x now blocked r s denom amt = .ok x') : OthersSame x x' r s := by
  obtain ⟨st, y, _, _, _, _, hy, _, hstr⟩ := addDeposit_iff.mp h
  exact OthersSame.trans hy.frame (OthersSame.set hstr)

theorem setNewFlowRate_frame {x x' : SB} {now : Int} {blocked : Addr → Bool} {r s : Addr} {rate : Int}
    (h : setNewFlowRate x now blocked r s rate = .ok x') : OthersSame x x' r s := by
  obtain ⟨st, y, _, hy, _, rfl⟩ := setNewFlowRate_iff.mp h
  exact OthersSame.trans hy.frame (OthersSame.set rfl)

theorem cancelStream_frame {x x' : SB} {now : Int} {blocked : Addr → Bool} {r s : Addr}
    (h : cancelStream x now blocked r s = .ok x') : OthersSame x x' r s := by
  obtain ⟨st, y, _, _, hy, _, _, hstr⟩ := cancelStream_iff.mp h
  refine OthersSame.trans hy.frame ?_
  unfold OthersSame; rw [hstr]; exact ⟨rfl, fun k hk => find_erase_ne _ _ _ (Ne.symm hk)⟩

theorem streamMsg_frame (x : SB) (now : Int) (blocked : Addr → Bool) (rT sT : AddrTok) :
    let On (x' : SB) : Prop := ∃ r s, rT.decode = some r ∧ sT.decode = some s ∧ OthersSame x x' r s
    (∀ denom amt rate x', createStream x now blocked rT sT denom amt rate = .ok x' → On x') ∧
    (∀ y, claimStream x now blocked rT sT = .ok y → On y.1) ∧
    (∀ denom amt y, topUpDeposit x now blocked rT sT denom amt = .ok y → On y.1) ∧
    (∀ rate x', updateFlowRate x now blocked rT sT rate = .ok x' → On x') ∧
    (∀ x', cancelStreamMsg x now blocked rT sT = .ok x' → On x') := by
  refine ⟨fun denom amt rate x' h => ?_, fun y h => ?_, fun denom amt y h => ?_, fun rate x' h => ?_, fun x' h => ?_⟩
  · obtain ⟨r, s, hs, hr, _, _, _, _, _, _, h⟩ := createStream_iff.mp h
    exact ⟨r, s, hr, hs, OthersSame.trans (y := { x with str := setStream x r s (.fresh now denom rate) }) (OthersSame.set rfl)
      (addDeposit_frame h)⟩
  · obtain ⟨r, s, hs, hr, h⟩ := (claimStream_iff (x' := y.1) (o := y.2)).mp h
    exact ⟨r, s, hr, hs, claim_frame h⟩
  · obtain ⟨r, s, _, hs, hr, _, _, h, _⟩ := topUpDeposit_iff.mp h
    exact ⟨r, s, hr, hs, addDeposit_frame h⟩
  · obtain ⟨r, s, hs, hr, _, h⟩ := updateFlowRate_iff.mp h
    exact ⟨r, s, hr, hs, setNewFlowRate_frame h⟩
  · obtain ⟨r, s, hs, hr, h⟩ := cancelStreamMsg_iff.mp h
    exact ⟨r, s, hr, hs, cancelStream_frame h⟩

end Mainchain
