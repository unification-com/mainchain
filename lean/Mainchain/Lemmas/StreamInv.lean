import Mainchain.Lemmas.StreamOps
/-
Escrow conservation of x/stream: the module account holds, per denomination, exactly the sum of
the remaining deposits.  An operation replaces one stream record; the invariant survives when the escrow
balance moves by the difference of the two records (`StreamInv.set`, `.erase`).
-/
namespace Mainchain
open AL Bank

theorem calcValidatorFee_split {fee amount pay f : Int} (ha : 0 ≤ amount)
    (h : calcValidatorFee fee amount = .ok (pay, f)) : pay + f = amount ∧ 0 ≤ pay ∧ 0 ≤ f ∧
      (f = if fee > 0 then feeOf fee amount else 0) := by
  unfold calcValidatorFee at h
  split at h
  · rename_i hf
    simp only [bind_eq_ok, pure_eq_ok, require_eq_ok, decide_eq_true_eq, Prod.mk.injEq] at h
    obtain ⟨_, h1, _, h2, rfl, rfl⟩ := h
    exact ⟨by omega, h2, h1, (if_pos hf).symm⟩
  · rename_i hf
    simp only [Except.ok.injEq, Prod.mk.injEq] at h
    obtain ⟨rfl, rfl⟩ := h
    exact ⟨Int.add_zero _, ha, Int.le_refl 0, (if_neg hf).symm⟩

def accrued (now zero last D r : Int) : Int :=
  if zero ≤ now then D else max (durSeconds (satDur (now - last))) 0 * r

theorem calcAmountToClaim_eq (now zero last D r : Int) :
    calcAmountToClaim now zero last D r = (min D (accrued now zero last D r), D - min D (accrued now zero last D r)) := by
  unfold calcAmountToClaim accrued
  split
  · rw [Int.min_self, Int.sub_self]
  · simp only; split
    · rename_i h; rw [Int.min_eq_right (Int.le_of_lt h)]
    · rename_i h; rw [Int.min_eq_left (Int.not_lt.mp h), Int.sub_self]

theorem calcAmountToClaim_sum (now zero last deposit rate : Int) :
    (calcAmountToClaim now zero last deposit rate).1 + (calcAmountToClaim now zero last deposit rate).2 = deposit := by
  rw [calcAmountToClaim_eq]; omega

theorem calcAmountToClaim_le (now zero last deposit rate : Int) :
    (calcAmountToClaim now zero last deposit rate).1 ≤ deposit ∧ 0 ≤ (calcAmountToClaim now zero last deposit rate).2 := by
  rw [calcAmountToClaim_eq]; exact ⟨Int.min_le_left _ _, Int.sub_nonneg.mpr (Int.min_le_left _ _)⟩

theorem calcAmountToClaim_nonneg (now zero last deposit rate : Int) (hd : 0 ≤ deposit) (hr : 0 ≤ rate) :
    0 ≤ (calcAmountToClaim now zero last deposit rate).1 := by
  rw [calcAmountToClaim_eq]
  refine Int.le_min.mpr ⟨hd, ?_⟩
  unfold accrued; split
  · exact hd
  · exact Int.mul_nonneg (Int.le_max_right _ _) hr

theorem ite_max_sub (b : Int) (denom d : String) (amt : Int) (hpos : amt > 0) :
    b - (if (denom = d) then amt else 0) = b - (if denom = d then max amt 0 else 0) := by
  split <;> omega

def depIn (d : String) (st : Stream) : Int := if st.denom = d then st.deposit else 0

def depositSum (x : SB) (d : String) : Int := sumF (depIn d) x.str.streams

structure StreamInv (x : SB) : Prop where
  nodup : NoDupKeys x.str.streams
  bank : BankInv x.bank
  -- no address from 1000 on (the module accounts of Model/Types, and the driver's long addresses from 2000) is a vesting account
  modNoVest : ∀ a, 1000 ≤ a → find? x.bank.vest a = none
  nonneg : ∀ key st, find? x.str.streams key = some st → 0 ≤ st.deposit
  backed : ∀ d, (x.bank.balOf Mstr d : Int) = depositSum x d

theorem StreamInv.noVest {x : SB} (hi : StreamInv x) : find? x.bank.vest Mstr = none := hi.modNoVest Mstr (by decide)

theorem StreamInv.set {x x' : SB} (hi : StreamInv x) {r s : Addr} {st' : Stream} (hstr : x'.str = setStream x r s st')
    (hb : BankInv x'.bank) (hv : x'.bank.vest = x.bank.vest) (h0 : 0 ≤ st'.deposit)
    (hbal : ∀ d, (x'.bank.balOf Mstr d : Int) = x.bank.balOf Mstr d - fOpt (depIn d) (find? x.str.streams (r, s)) + depIn d st') :
    StreamInv x' := by
  have hs : x'.str.streams = insert x.str.streams (r, s) st' := by rw [hstr]; rfl
  refine ⟨hs ▸ nodup_insert _ _ _ hi.nodup, hb, fun a ha => hv ▸ hi.modNoVest a ha, ?_, fun d => ?_⟩
  · rw [hs]
    exact forall_find_insert (P := fun _ (st : Stream) => 0 ≤ st.deposit) _ _ _ h0 (fun k st _ hk => hi.nonneg k st hk)
  · unfold depositSum; rw [hs, sumF_insert, hbal, hi.backed d]; rfl

theorem StreamInv.erase {x x' : SB} (hi : StreamInv x) {r s : Addr}
    (hstr : x'.str = { x.str with streams := erase x.str.streams (r, s) }) (hb : BankInv x'.bank) (hv : x'.bank.vest = x.bank.vest)
    (hbal : ∀ d, (x'.bank.balOf Mstr d : Int) = x.bank.balOf Mstr d - fOpt (depIn d) (find? x.str.streams (r, s))) :
    StreamInv x' := by
  have hs : x'.str.streams = AL.erase x.str.streams (r, s) := by rw [hstr]
  refine ⟨hs ▸ nodup_erase _ _ hi.nodup, hb, fun a ha => hv ▸ hi.modNoVest a ha, fun key st hk => ?_, fun d => ?_⟩
  · rw [hs, find_erase _ _ _ hi.nodup] at hk
    split at hk
    · cases hk
    · exact hi.nonneg key st hk
  · unfold depositSum; rw [hs, sumF_erase, hbal, hi.backed d]; rfl

theorem streamInv_of_bank {x : SB} {b : Bank} (hi : StreamInv x) (hb : BankInv b)
    (hv : ∀ a, 1000 ≤ a → find? b.vest a = none) (hbal : ∀ d, b.balOf Mstr d = x.bank.balOf Mstr d) :
    StreamInv { x with bank := b } :=
  ⟨hi.nodup, hb, hv, hi.nonneg, fun d => by
    show (b.balOf Mstr d : Int) = depositSum x d
    rw [hbal d]; exact hi.backed d⟩

/-- `ib`, `hv`, `eb` as `sendCoins_spec` and `undelegate_spec` give them -/
theorem StreamInv.transfer {x : SB} (hi : StreamInv x) {b : Bank} {src dst : Addr} {amt : Coins} (ib : BankInv b)
    (hv : ∀ a, find? x.bank.vest a = none → find? b.vest a = none)
    (eb : ∀ a' d', (b.balOf a' d' : Int) =
      x.bank.balOf a' d' - (if src = a' then coinsSum amt d' else 0) + (if dst = a' then coinsSum amt d' else 0))
    (h1 : src ≠ Mstr) (h2 : dst ≠ Mstr) : StreamInv { x with bank := b } := by
  refine streamInv_of_bank hi ib (fun a ha => hv a (hi.modNoVest a ha)) (fun d => ?_)
  have := eb Mstr d
  rw [if_neg h1, if_neg h2] at this
  omega

structure Claimed (x x' : SB) (now : Int) (r : Addr) (o : ClaimOut) (st : Stream) : Prop where
  rem : o.rem = (calcAmountToClaim now st.zero st.last st.deposit st.rate).2
  split : o.pay + o.fee = o.total
  pay0 : 0 ≤ o.pay
  fee0 : 0 ≤ o.fee
  feeEq : o.fee = if x.str.fee > 0 then feeOf x.str.fee o.total else 0
  sum : o.total + o.rem = st.deposit
  rem0 : 0 ≤ o.rem
  inv : StreamInv x'
  vest : x'.bank.vest = x.bank.vest
  escrow : ∀ d, (x'.bank.balOf Mstr d : Int) = x.bank.balOf Mstr d - if st.denom = d then o.total else 0
  other : ∀ a d, a ≠ Mstr → a ≠ Mfee → (x'.bank.balOf a d : Int) =
    x.bank.balOf a d + if r = a then (if st.denom = d then o.pay else 0) else 0

theorem claim_spec {x x' : SB} {now : Int} {blocked : Addr → Bool} {r s : Addr} {o : ClaimOut} {st : Stream}
    (hbl : blocked Mstr = true) (hi : StreamInv x) (hf : find? x.str.streams (r, s) = some st)
    (h : claimFromStream x now blocked r s = .ok (x', o)) : Claimed x x' now r o st := by
  obtain ⟨st', b1, hf', _, htot, hrem, hc0, _, hfee, hb1, hto, hb2, hstr⟩ := claim_iff.mp h
  rw [hf] at hf'; cases hf'
  obtain ⟨hsplit, hpay, hfee0, hfeeEq⟩ := calcValidatorFee_split hc0 hfee
  have hsum : o.total + o.rem = st.deposit := by
    rw [htot, hrem]; exact calcAmountToClaim_sum now st.zero st.last st.deposit st.rate
  have hle := (calcAmountToClaim_le now st.zero st.last st.deposit st.rate).2
  obtain ⟨i1, v1, m1, e1⟩ := hb1.spec hi.bank hi.noVest hfee0 (fun _ => by decide)
  obtain ⟨i2, v2, m2, e2⟩ := hb2.spec i1 (by rw [v1]; exact hi.noVest) hpay
    (fun hp => ne_of_blocked (hto hp) hbl)
  have hesc : ∀ d, (x'.bank.balOf Mstr d : Int) = x.bank.balOf Mstr d - if st.denom = d then o.total else 0 := by
    intro d; rw [m2, m1]; split <;> omega
  refine ⟨hrem, hsplit, hpay, hfee0, hfeeEq, hsum, hrem ▸ hle, ?_, v2.trans v1, hesc, fun a d h1 h2 => ?_⟩
  · refine hi.set hstr i2 (v2.trans v1) hle (fun d => ?_)
    rw [hesc, hf]; simp only [fOpt, depIn, claimed, ← hrem]; split <;> omega
  · rw [e2 a d h1, e1 a d h1, if_neg (Ne.symm h2), Int.add_zero]

theorem Settles.spec {g : Prop} [Decidable g] {x y : SB} {now : Int} {blocked : Addr → Bool} {r s : Addr} {st : Stream}
    (hbl : blocked Mstr = true) (hi : StreamInv x) (hf : find? x.str.streams (r, s) = some st) (h : Settles g x now blocked r s y) :
    StreamInv y ∧ y.bank.vest = x.bank.vest ∧ find? y.str.streams (r, s) = some (if g then claimed now st else st) ∧
    0 ≤ (if g then claimed now st else st).deposit := by
  refine h.elim (fun hg o ho => ?_) (fun hg => ?_)
  · have c := claim_spec hbl hi hf ho
    rw [if_pos hg]
    exact ⟨c.inv, c.vest, claim_stores ho hf, (calcAmountToClaim_le now st.zero st.last st.deposit st.rate).2⟩
  · rw [if_neg hg]; exact ⟨hi, rfl, hf, hi.nonneg _ _ hf⟩

theorem addDeposit_inv {x x' : SB} {now : Int} {blocked : Addr → Bool} {r s : Addr} {denom : String} {amt : Int}
    (hbl : blocked Mstr = true) (hi : StreamInv x) (hs : s ≠ Mstr)
    (hlock : ∀ d, 0 ≤ Coins.amountOf (lockedCoins x.bank (now / nsPerSec) s) d)
    (h : addDeposit x now blocked r s denom amt = .ok x') : StreamInv x' := by
  obtain ⟨st, y, hf, hden, _, _, hy, hbank, hstr⟩ := addDeposit_iff.mp h
  obtain ⟨td, _, hdep⟩ := topped_fields now amt st
  -- the state after the optional settlement holds a stream `st0` that the top-up adds `amt` to
  obtain ⟨hiy, hvest, hf0, hnn0⟩ := hy.spec hbl hi hf
  have hd0 : (if st.zero ≤ now ∧ 0 < st.deposit then claimed now st else st).denom = st.denom := by split <;> rfl
  generalize (if st.zero ≤ now ∧ 0 < st.deposit then claimed now st else st) = st0 at hf0 hnn0 hd0 hdep
  obtain ⟨hamt, ib, vb, eb⟩ := sendCoins_ofCoin hiy.bank
    (fun d => by rw [lockedCoins_vest_eq hvest]; exact hlock d) hbank
  refine hiy.set hstr ib vb (by omega) (fun d => ?_)
  rw [eb, hf0, if_neg hs, if_pos rfl]
  simp only [fOpt, depIn, td, hd0, hdep, ← hden]
  split <;> omega

theorem setNewFlowRate_inv {x x' : SB} {now : Int} {blocked : Addr → Bool} {r s : Addr} {rate : Int}
    (hbl : blocked Mstr = true) (hi : StreamInv x) (h : setNewFlowRate x now blocked r s rate = .ok x') : StreamInv x' := by
  obtain ⟨st, y, hf, hy, _, rfl⟩ := setNewFlowRate_iff.mp h
  obtain ⟨hiy, _, (hfy : _ = some (settled now st)), (hnn : 0 ≤ (settled now st).deposit)⟩ := hy.spec hbl hi hf
  obtain ⟨rd, _, rdep⟩ := rerated_fields now rate st
  refine hiy.set rfl hiy.bank rfl (by rw [rdep]; exact hnn) (fun d => ?_)
  rw [hfy]; simp only [fOpt, depIn, rd, rdep, (settled_fields now st).1]; omega

theorem cancelStream_inv {x x' : SB} {now : Int} {blocked : Addr → Bool} {r s : Addr}
    (hbl : blocked Mstr = true) (hi : StreamInv x) (h : cancelStream x now blocked r s = .ok x') : StreamInv x' := by
  obtain ⟨st, y, hf, _, hy, hto, hbank, hstr⟩ := cancelStream_iff.mp h
  obtain ⟨hiy, _, (hfy : _ = some (settled now st)), (hnn : 0 ≤ (settled now st).deposit)⟩ := hy.spec hbl hi hf
  obtain ⟨ib, vb, mb, _⟩ := hbank.spec hiy.bank hiy.noVest hnn (fun hp => ne_of_blocked (hto hp) hbl)
  refine hiy.erase hstr ib vb (fun d => ?_)
  rw [mb, hfy]; rfl

theorem KeeperOp.inv {now : Int} {blocked : Addr → Bool} {S : Addr → Prop} {a b : SB} (hbl : blocked Mstr = true)
    (hS : ∀ s, S s → s ≠ Mstr) (hlock : ∀ sa d, 0 ≤ Coins.amountOf (lockedCoins a.bank (now / nsPerSec) sa) d)
    (hi : StreamInv a) (h : KeeperOp now blocked S a b) : StreamInv b := by
  cases h with
  | create r s denom amt rate hs _ hfresh _ _ h =>
    refine addDeposit_inv hbl (hi.set (x' := { a with str := setStream a r s (.fresh now denom rate) }) rfl hi.bank rfl
      (Int.le_refl 0) (fun d => ?_)) (hS s hs) (hlock s) h
    rw [hfresh]; simp only [fOpt, depIn, Stream.fresh]; omega
  | claim r s o h => obtain ⟨_, _, hf, _⟩ := claim_iff.mp h; exact (claim_spec hbl hi hf h).inv
  | topup r s denom amt hs _ h => exact addDeposit_inv hbl hi (hS s hs) (hlock s) h
  | rate r s rate _ h => exact setNewFlowRate_inv hbl hi h
  | cancel r s h => exact cancelStream_inv hbl hi h

end Mainchain
