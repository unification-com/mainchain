import Mainchain.Lemmas.StreamRate
/-
Under the invariants a funded stream can be claimed, cancelled and topped up; what each needs beyond them (a fee rate in
[0,1], balances below 2^255 resp. 2^254, an unblocked sender, for the top-up a sender who holds the amount and a duration within the
module's limit) is in the statements.  Each proof supplies the witnesses the operation's `↔`
asks for; the payments succeed by `xfer_succeeds`, and `Settles.balances` bounds what a settlement can have moved.
-/
namespace Mainchain
open AL Bank

/-- premise on the state at hand: every balance is below 2^255 (so that adding anything held in escrow cannot
overflow the 256-bit `sdk.Int`) -/
def Small (b : Bank) : Prop := ∀ a d, (b.balOf a d : Int) < 2 ^ 255

theorem feeOf_bounds (fee amount : Int) (hf0 : 0 < fee) (hf1 : fee ≤ (pow18 : Int)) (ha : 0 ≤ amount) :
    0 ≤ feeOf fee amount ∧ feeOf fee amount ≤ amount := by
  unfold feeOf
  have hnn : 0 ≤ amount * fee := Int.mul_nonneg ha (by omega)
  rw [Int.tdiv_eq_ediv_of_nonneg hnn]
  constructor
  · exact Int.ediv_nonneg hnn (by unfold pow18; omega)
  · have h1 : amount * fee ≤ amount * (pow18 : Int) := Int.mul_le_mul_of_nonneg_left hf1 ha
    have h2 : amount * fee / (pow18 : Int) ≤ amount * (pow18 : Int) / (pow18 : Int) :=
      Int.ediv_le_ediv (by unfold pow18; omega) h1
    rw [Int.mul_ediv_cancel _ (by unfold pow18; omega)] at h2
    exact h2

theorem calcValidatorFee_succeeds (fee amount : Int) (hf1 : fee ≤ (pow18 : Int)) (ha : 0 ≤ amount) :
    ∃ p, calcValidatorFee fee amount = .ok p := by
  unfold calcValidatorFee
  split
  · rename_i hpos
    obtain ⟨h1, h2⟩ := feeOf_bounds fee amount hpos hf1 ha
    simp only [bind_eq_ok, require_eq_ok, pure_eq_ok, decide_eq_true_eq]
    exact ⟨_, (), h1, (), Int.sub_nonneg.mpr h2, rfl⟩
  · exact ⟨_, rfl⟩

theorem escrow_covers {x : SB} (hi : StreamInv x) {key : Addr × Addr} {st : Stream}
    (hf : find? x.str.streams key = some st) : st.deposit ≤ (x.bank.balOf Mstr st.denom : Int) := by
  have := fOpt_le_sumF (depIn st.denom) x.str.streams (fun k v hk => by
    unfold depIn; split
    · exact hi.nonneg k v hk
    · exact Int.le_refl 0) hi.nodup key
  rw [hi.backed st.denom]
  simpa [hf, fOpt, depIn, depositSum] using this

theorem claim_succeeds (x : SB) (now : Int) (r s : Addr) (st : Stream) (hi : StreamInv x) (hwf : StreamWF now x)
    (hfee : x.str.fee ≤ (pow18 : Int)) (hsmall : Small x.bank)
    (hf : find? x.str.streams (r, s) = some st) (hpos : 0 < st.deposit) :
    ∃ x' o, claimFromStream x now isBlocked r s = .ok (x', o) := by
  have ok := streamWF_iff.mp hwf r s st hf
  have hden := denom_nonempty ok.denom
  have hc0 := calcAmountToClaim_nonneg now st.zero st.last st.deposit st.rate (Int.le_of_lt hpos)
    (Int.le_trans (by decide) ok.rate)
  have hcle := (calcAmountToClaim_le now st.zero st.last st.deposit st.rate).1
  obtain ⟨⟨pay, fee⟩, hp⟩ := calcValidatorFee_succeeds x.str.fee _ hfee hc0
  obtain ⟨hsplit, hp1, hp2, _⟩ := calcValidatorFee_split hc0 hp
  have hcover := escrow_covers hi hf
  have hrfee : Mfee ≠ r := (ne_of_blocked ok.recv isBlocked_Mfee).symm
  have hrM : r ≠ Mstr := ne_of_blocked ok.recv isBlocked_Mstr
  have hM := hsmall Mstr st.denom
  obtain ⟨b1, hb1⟩ := xfer_succeeds x.bank (now / nsPerSec) Mstr Mfee st.denom fee hden hi.bank hi.noVest hp2 (by omega)
    (hsmall Mfee st.denom) (by omega)
  obtain ⟨i1, v1, m1, e1⟩ := hb1.spec hi.bank hi.noVest hp2 (fun _ => by decide)
  have hr1 : b1.balOf r st.denom = x.bank.balOf r st.denom := by
    have := e1 r st.denom hrM
    rw [if_neg hrfee, Int.add_zero] at this
    exact Int.ofNat_inj.mp this
  obtain ⟨b2, hb2⟩ := xfer_succeeds b1 (now / nsPerSec) Mstr r st.denom pay hden i1 (by rw [v1]; exact hi.noVest) hp1
    (by rw [m1, if_pos rfl]; omega) (by rw [hr1]; exact hsmall r st.denom) (by omega)
  exact ⟨⟨setStream x r s (claimed now st), b2⟩, ⟨pay, fee, _, _⟩,
    claim_iff.mpr ⟨st, b1, hf, hpos, rfl, rfl, hc0, hcle, hp, hb1, fun _ => ok.recv, hb2, rfl⟩⟩

/-- stronger size assumption used for cancel and top-up (a settlement, then a second payment) -/
def Small254 (b : Bank) : Prop := ∀ a d, (b.balOf a d : Int) < 2 ^ 254

theorem small_of_small254 {b : Bank} (h : Small254 b) : Small b := by
  intro a d
  have := h a d
  rw [two254] at this; rw [two255]; omega

theorem settles_succeeds {g : Prop} [Decidable g] (x : SB) (now : Int) (r s : Addr) (st : Stream) (hi : StreamInv x)
    (hwf : StreamWF now x) (hfee : x.str.fee ≤ (pow18 : Int)) (hsmall : Small x.bank)
    (hf : find? x.str.streams (r, s) = some st) (hg : g → 0 < st.deposit) : ∃ y, Settles g x now isBlocked r s y := by
  unfold Settles
  split
  · rename_i h
    exact claim_succeeds x now r s st hi hwf hfee hsmall hf (hg h)
  · exact ⟨x, rfl⟩

theorem Settles.balances {g : Prop} [Decidable g] {x y : SB} {now : Int} {blocked : Addr → Bool} {r s : Addr} {st : Stream}
    (hbl : blocked Mstr = true) (hi : StreamInv x) (hf : find? x.str.streams (r, s) = some st) (h : Settles g x now blocked r s y) :
    (∀ d, y.bank.balOf Mstr d ≤ x.bank.balOf Mstr d) ∧
    (∀ a d, a ≠ Mstr → a ≠ Mfee → x.bank.balOf a d ≤ y.bank.balOf a d ∧ (y.bank.balOf a d : Int) ≤ x.bank.balOf a d + st.deposit) := by
  have h0 := hi.nonneg _ _ hf
  refine h.elim (fun _ o ho => ?_) (fun _ => ⟨fun _ => Nat.le_refl _, fun _ _ _ _ => ⟨Nat.le_refl _, by omega⟩⟩)
  have c := claim_spec hbl hi hf ho
  have := c.split; have := c.pay0; have := c.fee0; have := c.sum; have := c.rem0
  refine ⟨fun d => ?_, fun a d h1 h2 => ?_⟩
  · have := c.escrow d; omega
  · have := c.other a d h1 h2; omega

theorem cancel_succeeds (x : SB) (now : Int) (r s : Addr) (st : Stream) (hi : StreamInv x) (hwf : StreamWF now x)
    (hfee : x.str.fee ≤ (pow18 : Int)) (hsmall : Small254 x.bank)
    (hf : find? x.str.streams (r, s) = some st) (hs : isBlocked s = false) :
    ∃ x', cancelStream x now isBlocked r s = .ok x' := by
  have ok := streamWF_iff.mp hwf r s st hf
  have hsM : s ≠ Mstr := ne_of_blocked hs isBlocked_Mstr
  have hsF : s ≠ Mfee := ne_of_blocked hs isBlocked_Mfee
  obtain ⟨y, hy⟩ := settles_succeeds (g := 0 < st.deposit) x now r s st hi hwf hfee (small_of_small254 hsmall) hf id
  obtain ⟨hiy, _, (hfy : _ = some (settled now st)), (hnn : 0 ≤ (settled now st).deposit)⟩ := hy.spec isBlocked_Mstr hi hf
  -- the settlement has not raised the escrow, and has raised the sender's balance by at most the deposit, which the escrow
  -- held: with every balance below 2^254 before, the refund and the sender's balance are below 2^255
  obtain ⟨hM, hO⟩ := hy.balances isBlocked_Mstr hi hf
  have hcover := escrow_covers hiy hfy
  have hcx := escrow_covers hi hf
  have hd := (settled_fields now st).1
  have h1 := hsmall Mstr st.denom
  have h2 := hsmall s st.denom
  have h3 := hM st.denom
  have h4 := (hO s st.denom hsM hsF).2
  rw [two254] at h1 h2
  rw [hd] at hcover
  obtain ⟨b, hb⟩ := xfer_succeeds y.bank (now / nsPerSec) Mstr s (settled now st).denom (settled now st).deposit
    (by rw [hd]; exact denom_nonempty ok.denom) hiy.bank hiy.noVest hnn (by rw [hd]; exact hcover)
    (by rw [hd, two255]; omega) (by rw [two255]; omega)
  exact ⟨⟨{ y.str with streams := erase y.str.streams (r, s) }, b⟩,
    cancelStream_iff.mpr ⟨st, y, hf, ok.canc, hy, fun _ => hs, hb, rfl⟩⟩

theorem topup_succeeds (x : SB) (now : Int) (r s : Addr) (st : Stream) (hi : StreamInv x) (hwf : StreamWF now x)
    (hfee : x.str.fee ≤ (pow18 : Int)) (hsmall : Small254 x.bank)
    (hf : find? x.str.streams (r, s) = some st) (hs : isBlocked s = false)
    (amt : Int) (hamt : 0 < amt) (hnv : find? x.bank.vest s = none) (hfunds : amt ≤ x.bank.balOf s st.denom)
    (hdur : calcDuration amt st.rate ≤ maxDurationSeconds) :
    ∃ x', addDeposit x now isBlocked r s st.denom amt = .ok x' := by
  have ok := streamWF_iff.mp hwf r s st hf
  have hsM : s ≠ Mstr := ne_of_blocked hs isBlocked_Mstr
  have hsF : s ≠ Mfee := ne_of_blocked hs isBlocked_Mfee
  -- the settlement of an expired stream, or nothing: the sender lost nothing, the escrow did not grow
  obtain ⟨y, hy⟩ := settles_succeeds (g := st.zero ≤ now ∧ 0 < st.deposit) x now r s st hi hwf hfee (small_of_small254 hsmall) hf
    And.right
  obtain ⟨hiy, hvy, _⟩ := hy.spec isBlocked_Mstr hi hf
  obtain ⟨hM, hO⟩ := hy.balances isBlocked_Mstr hi hf
  have hsy := (hO s st.denom hsM hsF).1
  have hMy := hM st.denom
  have h1 := hsmall Mstr st.denom
  have h2 := hsmall s st.denom
  rw [two254] at h1 h2
  obtain ⟨b, hb⟩ := xfer_succeeds y.bank (now / nsPerSec) s Mstr st.denom amt (denom_nonempty ok.denom) hiy.bank
    (by rw [hvy]; exact hnv) (by omega) (by omega) (by rw [two255]; omega) (by rw [two255]; omega)
  rw [Xfer, if_pos hamt] at hb
  exact ⟨⟨setStream y r s (topped now amt st), b⟩,
    addDeposit_iff.mpr ⟨st, y, hf, rfl, ok.denom, hdur, hy, by rw [ofCoin_pos _ hamt]; exact hb, rfl⟩⟩

end Mainchain
