import Mainchain.Lemmas.BankFrame
/-
Every keeper operation as an `↔`: the stream record it reads, the pure transition of that record and the payments it makes.
-/
namespace Mainchain
open AL Bank

theorem findStream_iff {x : SB} {r s : Addr} {e : Err} {st : Stream} :
    findStream x r s e = .ok st ↔ find? x.str.streams (r, s) = some st := by
  unfold findStream; split <;> simp_all

/- The stored record of a stream after `ClaimFromStream` (`claimed`), `settleIfFunded` (`settled`), `AddDeposit` of `amt`
(`topped`) and `SetNewFlowRate` to `rate` (`rerated`) at block time `now`. -/
def claimed (now : Int) (st : Stream) : Stream :=
  { st with deposit := (calcAmountToClaim now st.zero st.last st.deposit st.rate).2, last := now }

def settled (now : Int) (st : Stream) : Stream := if 0 < st.deposit then claimed now st else st

def topped (now amt : Int) (st : Stream) : Stream :=
  if st.zero ≤ now then
    { settled now st with last := now, deposit := (settled now st).deposit + amt, zero := addSeconds now (calcDuration amt st.rate) }
  else { st with deposit := st.deposit + amt, zero := addSeconds st.zero (calcDuration amt st.rate) }

def rerated (now rate : Int) (st : Stream) : Stream :=
  if 0 < st.deposit then
    { claimed now st with rate := rate, zero := addSeconds now (calcDuration (claimed now st).deposit rate) }
  else { st with rate := rate, zero := now }

theorem settled_fields (now : Int) (st : Stream) : (settled now st).denom = st.denom ∧ (settled now st).rate = st.rate := by
  unfold settled; split <;> exact ⟨rfl, rfl⟩

theorem topped_fields (now amt : Int) (st : Stream) :
    (topped now amt st).denom = st.denom ∧ (topped now amt st).rate = st.rate ∧
    (topped now amt st).deposit = (if st.zero ≤ now ∧ 0 < st.deposit then claimed now st else st).deposit + amt := by
  obtain ⟨h1, h2⟩ := settled_fields now st
  unfold topped settled; split
  · rename_i hz; refine ⟨h1, h2, ?_⟩; simp only [hz, true_and]
  · rename_i hz; refine ⟨rfl, rfl, ?_⟩; simp only [hz, false_and, if_false]

theorem rerated_fields (now rate : Int) (st : Stream) :
    (rerated now rate st).denom = st.denom ∧ (rerated now rate st).rate = rate ∧
    (rerated now rate st).deposit = (settled now st).deposit := by
  unfold rerated settled; split <;> exact ⟨rfl, rfl, rfl⟩

theorem claim_iff {x x' : SB} {now : Int} {blocked : Addr → Bool} {r s : Addr} {o : ClaimOut} :
    claimFromStream x now blocked r s = .ok (x', o) ↔
    ∃ st b1, find? x.str.streams (r, s) = some st ∧ 0 < st.deposit ∧
      o.total = (calcAmountToClaim now st.zero st.last st.deposit st.rate).1 ∧
      o.rem = (calcAmountToClaim now st.zero st.last st.deposit st.rate).2 ∧
      0 ≤ o.total ∧ o.total ≤ st.deposit ∧ calcValidatorFee x.str.fee o.total = .ok (o.pay, o.fee) ∧
      Xfer (now / nsPerSec) Mstr Mfee st.denom o.fee x.bank b1 ∧ (0 < o.pay → blocked r = false) ∧
      Xfer (now / nsPerSec) Mstr r st.denom o.pay b1 x'.bank ∧ x'.str = setStream x r s (claimed now st) := by
  simp only [claimFromStream, bind_eq_ok, pure_eq_ok, require_eq_ok, decide_eq_true_eq, Prod.mk.injEq, findStream_iff,
    payFee_iff, payOut_iff]
  constructor
  · rintro ⟨st, hst, _, hpos, _, hc0, _, hcle, f, hf, b1, hb1, b2, ⟨hto, hb2⟩, rfl, rfl⟩
    exact ⟨st, b1, hst, hpos, rfl, rfl, hc0, hcle, hf, hb1, hto, hb2, rfl⟩
  · rintro ⟨st, b1, hst, hpos, h1, h2, hc0, hcle, hf, hb1, hto, hb2, hstr⟩
    obtain ⟨str', bank'⟩ := x'
    obtain ⟨pay, fee, total, rem⟩ := o
    simp only at h1 h2 hstr hf hb2 hc0 hcle hto hb1
    subst h1 h2 hstr
    exact ⟨st, hst, (), hpos, (), hc0, (), hcle, (pay, fee), hf, b1, hb1, bank', ⟨hto, hb2⟩, rfl, rfl⟩

theorem find_setStream (x : SB) (r s : Addr) (st : Stream) : find? (setStream x r s st).streams (r, s) = some st :=
  find_insert_eq _ _ _

theorem find_of_set {x x' : SB} {r s : Addr} {st : Stream} (h : x'.str = setStream x r s st) :
    find? x'.str.streams (r, s) = some st :=
  h ▸ find_setStream x r s st

theorem claim_stores {x x' : SB} {now : Int} {blocked : Addr → Bool} {r s : Addr} {o : ClaimOut} {st : Stream}
    (h : claimFromStream x now blocked r s = .ok (x', o)) (hf : find? x.str.streams (r, s) = some st) :
    find? x'.str.streams (r, s) = some (claimed now st) := by
  obtain ⟨st', _, hf', _, _, _, _, _, _, _, _, _, hstr⟩ := claim_iff.mp h
  rw [hf] at hf'; cases hf'
  exact find_of_set hstr

/-- `settleIfFunded` as a relation on states (`g` : the stream holds a deposit), and the settlement of an expired stream in
`AddDeposit` -/
def Settles (g : Prop) [Decidable g] (x : SB) (now : Int) (blocked : Addr → Bool) (r s : Addr) (y : SB) : Prop :=
  if g then ∃ o, claimFromStream x now blocked r s = .ok (y, o) else y = x

@[elab_as_elim] theorem Settles.elim {g : Prop} [Decidable g] {x y : SB} {now : Int} {blocked : Addr → Bool} {r s : Addr} {P : SB → Prop}
    (h : Settles g x now blocked r s y) (hclaim : g → ∀ o, claimFromStream x now blocked r s = .ok (y, o) → P y)
    (hsame : ¬ g → P x) : P y := by
  unfold Settles at h
  split at h
  · rename_i hg; obtain ⟨o, ho⟩ := h; exact hclaim hg o ho
  · rename_i hg; exact h ▸ hsame hg

theorem settle_iff {x : SB} {now : Int} {blocked : Addr → Bool} {r s : Addr} {st : Stream} {z : SB × Stream}
    (hf : find? x.str.streams (r, s) = some st) :
    settleIfFunded x now blocked r s st = .ok z ↔ Settles (0 < st.deposit) x now blocked r s z.1 ∧ z.2 = settled now st := by
  obtain ⟨z1, z2⟩ := z
  unfold settleIfFunded Settles settled
  split
  · simp only [bind_eq_ok, pure_eq_ok, Prod.mk.injEq]
    constructor
    · rintro ⟨⟨y, o⟩, hy, rfl, rfl⟩
      exact ⟨⟨o, hy⟩, by rw [claim_stores hy hf]; rfl⟩
    · rintro ⟨⟨o, hy⟩, rfl⟩
      exact ⟨(z1, o), hy, rfl, by rw [claim_stores hy hf]; rfl⟩
  · simp only [Except.ok.injEq, Prod.mk.injEq]
    exact ⟨fun ⟨h1, h2⟩ => ⟨h1.symm, h2.symm⟩, fun ⟨h1, h2⟩ => ⟨h1.symm, h2.symm⟩⟩

theorem addDeposit_iff {x x' : SB} {now : Int} {blocked : Addr → Bool} {r s : Addr} {denom : String} {amt : Int} :
    addDeposit x now blocked r s denom amt = .ok x' ↔
    ∃ st y, find? x.str.streams (r, s) = some st ∧ denom = st.denom ∧ validDenom denom = true ∧
      calcDuration amt st.rate ≤ maxDurationSeconds ∧ Settles (st.zero ≤ now ∧ 0 < st.deposit) x now blocked r s y ∧
      y.bank.sendCoins (now / nsPerSec) s Mstr (Coins.ofCoin { denom := denom, amt := amt }) = .ok x'.bank ∧
      x'.str = setStream y r s (topped now amt st) := by
  simp only [addDeposit, bind_eq_ok, pure_eq_ok, require_eq_ok, decide_eq_true_eq, findStream_iff]
  constructor
  · rintro ⟨st, hst, _, hden, w, hw, _, hvd, bank, hbank, _, hext, rfl⟩
    split at hw
    · rename_i hz0
      simp only [bind_eq_ok, pure_eq_ok] at hw
      obtain ⟨z, hz, rfl⟩ := hw
      obtain ⟨hy, hz2⟩ := (settle_iff hst).mp hz
      refine ⟨st, z.1, hst, hden, hvd, hext, ?_, hbank, by simp only [topped, if_pos hz0, hz2]⟩
      simpa only [Settles, hz0, true_and] using hy
    · rename_i hz0; cases hw
      exact ⟨st, x, hst, hden, hvd, hext, by simp only [Settles, hz0, false_and, if_false], hbank,
        by simp only [topped, if_neg hz0]⟩
  · rintro ⟨st, y, hst, hden, hvd, hext, hy, hbank, hstr⟩
    obtain ⟨str', bank'⟩ := x'
    simp only at hbank hstr; subst hstr
    unfold Settles at hy
    by_cases hz0 : st.zero ≤ now
    · simp only [hz0, true_and] at hy
      refine ⟨st, hst, (), hden, (y, { settled now st with last := now }, addSeconds now (calcDuration amt st.rate)), ?_,
        (), hvd, bank', hbank, (), hext, ?_⟩
      · rw [if_pos hz0]; simp only [bind_eq_ok, pure_eq_ok]
        exact ⟨(y, settled now st), (settle_iff hst).mpr ⟨hy, rfl⟩, rfl⟩
      · simp only [topped, if_pos hz0]
    · simp only [hz0, false_and, if_false] at hy; subst hy
      refine ⟨st, hst, (), hden, (y, st, addSeconds st.zero (calcDuration amt st.rate)), by rw [if_neg hz0],
        (), hvd, bank', hbank, (), hext, ?_⟩
      simp only [topped, if_neg hz0]

theorem setNewFlowRate_iff {x x' : SB} {now : Int} {blocked : Addr → Bool} {r s : Addr} {rate : Int} :
    setNewFlowRate x now blocked r s rate = .ok x' ↔
    ∃ st y, find? x.str.streams (r, s) = some st ∧ Settles (0 < st.deposit) x now blocked r s y ∧
      (0 < st.deposit → calcDuration (claimed now st).deposit rate ≤ maxDurationSeconds) ∧
      x' = { y with str := setStream y r s (rerated now rate st) } := by
  simp only [setNewFlowRate, bind_eq_ok, findStream_iff]
  constructor
  · rintro ⟨st, hst, h⟩
    split at h
    · rename_i hpos
      simp only [bind_eq_ok, pure_eq_ok, require_eq_ok, decide_eq_true_eq] at h
      obtain ⟨z, hz, _, hdur, rfl⟩ := h
      obtain ⟨hy, hz2⟩ := (settle_iff hst).mp hz
      simp only [settled, if_pos hpos] at hz2
      exact ⟨st, z.1, hst, hy, fun _ => hz2 ▸ hdur, by simp only [rerated, if_pos hpos, hz2]⟩
    · rename_i hpos
      simp only [pure_eq_ok] at h
      exact ⟨st, x, hst, by simp only [Settles, if_neg hpos], fun h => absurd h hpos, by simp only [rerated, if_neg hpos, h]⟩
  · rintro ⟨st, y, hst, hy, hdur, rfl⟩
    refine ⟨st, hst, ?_⟩
    split
    · rename_i hpos
      simp only [bind_eq_ok, pure_eq_ok, require_eq_ok, decide_eq_true_eq]
      refine ⟨(y, settled now st), (settle_iff hst).mpr ⟨hy, rfl⟩, (), ?_, ?_⟩
      · simp only [settled, if_pos hpos]; exact hdur hpos
      · simp only [rerated, settled, if_pos hpos]
    · rename_i hpos
      simp only [Settles, if_neg hpos] at hy; subst hy
      simp only [pure_eq_ok, rerated, if_neg hpos]

theorem cancelStream_iff {x x' : SB} {now : Int} {blocked : Addr → Bool} {r s : Addr} :
    cancelStream x now blocked r s = .ok x' ↔
    ∃ st y, find? x.str.streams (r, s) = some st ∧ st.cancellable = true ∧ Settles (0 < st.deposit) x now blocked r s y ∧
      (0 < (settled now st).deposit → blocked s = false) ∧
      Xfer (now / nsPerSec) Mstr s (settled now st).denom (settled now st).deposit y.bank x'.bank ∧
      x'.str = { y.str with streams := erase y.str.streams (r, s) } := by
  simp only [cancelStream, bind_eq_ok, pure_eq_ok, require_eq_ok, findStream_iff, payOut_iff]
  constructor
  · rintro ⟨st, hst, _, hc, z, hz, bank, ⟨hto, hbank⟩, rfl⟩
    obtain ⟨hy, hz2⟩ := (settle_iff hst).mp hz
    rw [hz2] at hto hbank
    exact ⟨st, z.1, hst, hc, hy, hto, hbank, rfl⟩
  · rintro ⟨st, y, hst, hc, hy, hto, hbank, hstr⟩
    obtain ⟨str', bank'⟩ := x'
    simp only at hbank hstr; subst hstr
    exact ⟨st, hst, (), hc, (y, settled now st), (settle_iff hst).mpr ⟨hy, rfl⟩, bank', ⟨hto, hbank⟩, rfl⟩

theorem coinNotPositive_iff {amt : Int} : coinNotPositive amt = false ↔ 0 < amt := by
  simp [coinNotPositive]

/-- the stream record `CreateNewStream` stores before the first deposit arrives -/
def Stream.fresh (now : Int) (denom : String) (rate : Int) : Stream :=
  { denom := denom, deposit := 0, rate := rate, last := now, zero := 0, cancellable := true }

theorem createStream_iff {x x' : SB} {now : Int} {blocked : Addr → Bool} {rT sT : AddrTok} {denom : String} {amt rate : Int} :
    createStream x now blocked rT sT denom amt rate = .ok x' ↔
    ∃ r s, sT.decode = some s ∧ rT.decode = some r ∧ blocked r = false ∧ sT ≠ rT ∧ find? x.str.streams (r, s) = none ∧
      0 < amt ∧ 0 < rate ∧ minStreamDuration ≤ calcDuration amt rate ∧
      addDeposit { x with str := setStream x r s (.fresh now denom rate) } now blocked r s denom amt = .ok x' := by
  simp only [createStream, bind_eq_ok, require_eq_ok, decodeM_eq_ok, decide_eq_true_eq, contains_false_iff, coinNotPositive_iff,
    Bool.not_eq_true', Stream.fresh]
  exact ⟨fun ⟨s, hs, r, hr, _, h1, _, h2, _, h3, _, h4, _, h5, _, h6, h⟩ => ⟨r, s, hs, hr, h1, h2, h3, h4, h5, h6, h⟩,
    fun ⟨r, s, hs, hr, h1, h2, h3, h4, h5, h6, h⟩ => ⟨s, hs, r, hr, (), h1, (), h2, (), h3, (), h4, (), h5, (), h6, h⟩⟩

theorem claimStream_iff {x x' : SB} {now : Int} {blocked : Addr → Bool} {rT sT : AddrTok} {o : ClaimOut} :
    claimStream x now blocked rT sT = .ok (x', o) ↔
    ∃ r s, sT.decode = some s ∧ rT.decode = some r ∧ claimFromStream x now blocked r s = .ok (x', o) := by
  simp only [claimStream, bind_eq_ok, require_eq_ok, decodeM_eq_ok]
  exact ⟨fun ⟨s, hs, r, hr, _, _, h⟩ => ⟨r, s, hs, hr, h⟩, fun ⟨r, s, hs, hr, h⟩ =>
    ⟨s, hs, r, hr, (), (by obtain ⟨_, _, hf, _⟩ := claim_iff.mp h; exact contains_of_some hf), h⟩⟩

theorem topUpDeposit_iff {x : SB} {now : Int} {blocked : Addr → Bool} {rT sT : AddrTok} {denom : String} {amt : Int}
    {out : SB × Int × Int} :
    topUpDeposit x now blocked rT sT denom amt = .ok out ↔
    ∃ r s st, sT.decode = some s ∧ rT.decode = some r ∧ 0 < amt ∧ find? x.str.streams (r, s) = some st ∧
      addDeposit x now blocked r s denom amt = .ok out.1 ∧
      out.2 = (((find? out.1.str.streams (r, s)).getD st).deposit, ((find? out.1.str.streams (r, s)).getD st).zero) := by
  simp only [topUpDeposit, bind_eq_ok, pure_eq_ok, require_eq_ok, decodeM_eq_ok, decide_eq_true_eq, Bool.not_eq_true',
    coinNotPositive_iff, findStream_iff]
  constructor
  · rintro ⟨s, hs, r, hr, _, h1, st, hst, _, _, x', hx', rfl⟩
    exact ⟨r, s, st, hs, hr, h1, hst, hx', rfl⟩
  · rintro ⟨r, s, st, hs, hr, h1, hst, hx', hout⟩
    obtain ⟨st', _, hst', hden, _⟩ := addDeposit_iff.mp hx'
    rw [hst] at hst'; cases hst'
    obtain ⟨o1, o2⟩ := out
    simp only at hx' hout; subst hout
    exact ⟨s, hs, r, hr, (), h1, st, hst, (), hden, o1, hx', rfl⟩

theorem updateFlowRate_iff {x x' : SB} {now : Int} {blocked : Addr → Bool} {rT sT : AddrTok} {rate : Int} :
    updateFlowRate x now blocked rT sT rate = .ok x' ↔
    ∃ r s, sT.decode = some s ∧ rT.decode = some r ∧ 0 < rate ∧ setNewFlowRate x now blocked r s rate = .ok x' := by
  simp only [updateFlowRate, bind_eq_ok, require_eq_ok, decodeM_eq_ok, decide_eq_true_eq]
  exact ⟨fun ⟨s, hs, r, hr, _, h1, _, _, h⟩ => ⟨r, s, hs, hr, h1, h⟩, fun ⟨r, s, hs, hr, h1, h⟩ =>
    ⟨s, hs, r, hr, (), h1, (), (by obtain ⟨_, _, hf, _⟩ := setNewFlowRate_iff.mp h; exact contains_of_some hf), h⟩⟩

theorem cancelStreamMsg_iff {x x' : SB} {now : Int} {blocked : Addr → Bool} {rT sT : AddrTok} :
    cancelStreamMsg x now blocked rT sT = .ok x' ↔
    ∃ r s, sT.decode = some s ∧ rT.decode = some r ∧ cancelStream x now blocked r s = .ok x' := by
  simp only [cancelStreamMsg, bind_eq_ok, require_eq_ok, decodeM_eq_ok, findStream_iff]
  exact ⟨fun ⟨s, hs, r, hr, _, _, _, _, h⟩ => ⟨r, s, hs, hr, h⟩, fun ⟨r, s, hs, hr, h⟩ => by
    obtain ⟨st, _, hf, hc, _⟩ := cancelStream_iff.mp h
    exact ⟨s, hs, r, hr, st, hf, (), hc, h⟩⟩

/-- `S` holds of whoever pays into the escrow -/
inductive KeeperOp (now : Int) (blocked : Addr → Bool) (S : Addr → Prop) (a b : SB) : Prop where
  | create (r s : Addr) (denom : String) (amt rate : Int) (hs : S s) (hr : blocked r = false)
      (hfresh : find? a.str.streams (r, s) = none) (hamt : 0 < amt) (hrate : 0 < rate)
      (h : addDeposit { a with str := setStream a r s (.fresh now denom rate) } now blocked r s denom amt = .ok b)
  | claim (r s : Addr) (o : ClaimOut) (h : claimFromStream a now blocked r s = .ok (b, o))
  | topup (r s : Addr) (denom : String) (amt : Int) (hs : S s) (hamt : 0 < amt)
      (h : addDeposit a now blocked r s denom amt = .ok b)
  | rate (r s : Addr) (rate : Int) (hrate : 0 < rate) (h : setNewFlowRate a now blocked r s rate = .ok b)
  | cancel (r s : Addr) (h : cancelStream a now blocked r s = .ok b)

section rel
variable {R : Bank → Bank → Prop} {ok : Addr → Prop} {now : Int} (hR : BankRel R ok (now / nsPerSec)) {blocked : Addr → Bool}
variable (hMstr : ok Mstr) (hMfee : ok Mfee) (hunbl : ∀ x, blocked x = false → ok x)
include hR hMstr hMfee hunbl

theorem claimFromStream_rel {x x' : SB} {r s : Addr} {o : ClaimOut}
    (hx : claimFromStream x now blocked r s = .ok (x', o)) : R x.bank x'.bank := by
  obtain ⟨st, b1, _, _, _, _, _, _, _, hb1, hto, hb2, _⟩ := claim_iff.mp hx
  exact hR.trans _ _ _ (hb1.rel hR hMstr (fun _ => hMfee)) (hb2.rel hR hMstr (fun hp => hunbl r (hto hp)))

theorem Settles.rel {g : Prop} [Decidable g] {x y : SB} {r s : Addr} (hx : Settles g x now blocked r s y) : R x.bank y.bank :=
  hx.elim (fun _ _ ho => claimFromStream_rel hR hMstr hMfee hunbl ho) (fun _ => hR.refl _)

theorem addDeposit_rel {x x' : SB} {r s : Addr} {denom : String} {amt : Int} (hs : ok s)
    (hx : addDeposit x now blocked r s denom amt = .ok x') : R x.bank x'.bank := by
  obtain ⟨st, y, _, _, _, _, hy, hbank, _⟩ := addDeposit_iff.mp hx
  exact hR.trans _ _ _ (hy.rel hR hMstr hMfee hunbl) (hR.send _ _ _ _ _ hs hMstr hbank)

theorem setNewFlowRate_rel {x x' : SB} {r s : Addr} {rate : Int}
    (hx : setNewFlowRate x now blocked r s rate = .ok x') : R x.bank x'.bank := by
  obtain ⟨st, y, _, hy, _, rfl⟩ := setNewFlowRate_iff.mp hx
  exact hy.rel hR hMstr hMfee hunbl

theorem cancelStream_rel {x x' : SB} {r s : Addr}
    (hx : cancelStream x now blocked r s = .ok x') : R x.bank x'.bank := by
  obtain ⟨st, y, _, _, hy, hto, hbank, _⟩ := cancelStream_iff.mp hx
  exact hR.trans _ _ _ (hy.rel hR hMstr hMfee hunbl) (hbank.rel hR hMstr (fun hp => hunbl s (hto hp)))

end rel

theorem KeeperOp.rel {R : Bank → Bank → Prop} {ok S : Addr → Prop} {now : Int} (hR : BankRel R ok (now / nsPerSec))
    {blocked : Addr → Bool}
    (hMstr : ok Mstr) (hMfee : ok Mfee) (hunbl : ∀ x, blocked x = false → ok x) (hS : ∀ x, S x → ok x) {a b : SB}
    (h : KeeperOp now blocked S a b) : R a.bank b.bank := by
  cases h with
  | create r s denom amt rate hs _ _ _ _ h => exact (addDeposit_rel hR hMstr hMfee hunbl (hS s hs) h :)
  | claim r s o h => exact claimFromStream_rel hR hMstr hMfee hunbl h
  | topup r s denom amt hs _ h => exact addDeposit_rel hR hMstr hMfee hunbl (hS s hs) h
  | rate r s rate _ h => exact setNewFlowRate_rel hR hMstr hMfee hunbl h
  | cancel r s h => exact cancelStream_rel hR hMstr hMfee hunbl h

end Mainchain
