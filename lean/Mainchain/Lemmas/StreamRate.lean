import Mainchain.Lemmas.StreamReach
import Mainchain.Lemmas.Num
/-
Release-rate invariants of x/stream: well-formedness of stored streams and solvency
(the remaining deposit sustains the flow rate from the last release to the advertised zero time).
Each keeper operation replaces one record by a pure transition of it, so it is enough that the transitions keep `StreamOK`.
-/
namespace Mainchain
open AL Bank

def secsOf (ns : Int) : Int := ns / 1000000000

/-- The second disjunct: `SetNewFlowRate` on an empty stream sets `zero := now` and leaves `last` where it was, so that
`rate * secsOf (zero - last)` may be positive over a deposit of 0.  Nothing flows from such a stream. -/
def Solv (now : Int) (st : Stream) : Prop :=
  st.rate * secsOf (st.zero - st.last) ≤ st.deposit ∨ (st.deposit = 0 ∧ st.zero ≤ now)

structure StreamWF (now : Int) (x : SB) : Prop where
  rate : ∀ key st, find? x.str.streams key = some st → 1 ≤ st.rate
  denom : ∀ key st, find? x.str.streams key = some st → validDenom st.denom = true
  recv : ∀ r s st, find? x.str.streams (r, s) = some st → isBlocked r = false
  lastLe : ∀ key st, find? x.str.streams key = some st → st.last ≤ now
  solv : ∀ key st, find? x.str.streams key = some st → Solv now st
  canc : ∀ key st, find? x.str.streams key = some st → st.cancellable = true

/-- history assumption: no stream goes unclaimed for 2^63 ns (~292 years) -/
def GapOK (now : Int) (x : SB) : Prop := ∀ key st, find? x.str.streams key = some st → now - st.last ≤ maxI64

theorem secs_superadd (a b : Int) : secsOf a + secsOf b ≤ secsOf (a + b) := by
  unfold secsOf
  refine Int.le_ediv_of_mul_le (by decide) ?_
  rw [Int.add_mul]
  exact Int.add_le_add (Int.ediv_mul_le _ (by decide)) (Int.ediv_mul_le _ (by decide))

theorem secs_add_mul (a d : Int) : secsOf (a + d * nsPerSec) = secsOf a + d :=
  Int.add_mul_ediv_right a d (by decide)

theorem secs_mul (d : Int) : secsOf (d * nsPerSec) = d :=
  Int.mul_ediv_cancel d (by decide)

theorem durSeconds_eq (d : Int) (h : 0 ≤ d) : max (durSeconds d) 0 = secsOf d := by
  unfold durSeconds secsOf nsPerSec
  rw [Int.tdiv_eq_ediv_of_nonneg h]
  exact Int.max_eq_left (Int.ediv_nonneg h (by decide))

theorem addSeconds_exact (t d : Int) (h0 : 0 ≤ d) (h1 : d ≤ maxDurationSeconds) : addSeconds t d = t + d * nsPerSec := by
  unfold addSeconds
  rw [wrapI64_small _ (Int.mul_nonneg (by decide) h0) (by unfold maxDurationSeconds at h1; unfold nsPerSec two63; omega), Int.mul_comm]

theorem calcDuration_bounds (D r : Int) (hD : 0 ≤ D) (hr : 1 ≤ r) : 0 ≤ calcDuration D r ∧ r * calcDuration D r ≤ D := by
  have hr0 : 0 < r := hr
  unfold calcDuration
  rw [if_neg (Int.not_le.mpr hr0)]
  split
  · have hq0 : 0 ≤ D / r := Int.ediv_nonneg hD (Int.le_of_lt hr0)
    have hq : r * (D / r) ≤ D := Int.mul_ediv_self_le (Int.ne_of_gt hr0)
    simp only
    split
    · exact ⟨hq0, hq⟩
    · rename_i hnot
      -- the quotient does not fit an int64: it is larger than MaxInt64
      simp only [inI64, Bool.and_eq_true, decide_eq_true_eq, not_and, Int.not_le] at hnot
      have hbig := Int.le_of_lt (hnot (Int.le_trans (by decide) hq0))
      exact ⟨by decide, Int.le_trans (Int.mul_le_mul_of_nonneg_left hbig (Int.le_of_lt hr0)) hq⟩
  · exact ⟨Int.le_refl 0, by rw [Int.mul_zero]; exact hD⟩

theorem claim_amount_before_zero (now zero last D r : Int) (hlt : now < zero) (hge : last ≤ now)
    (hgap : now - last ≤ maxI64) :
    (calcAmountToClaim now zero last D r).1 = min D (r * secsOf (now - last)) ∧
    (calcAmountToClaim now zero last D r).2 = D - min D (r * secsOf (now - last)) := by
  have h0 : 0 ≤ now - last := Int.sub_nonneg.mpr hge
  rw [calcAmountToClaim_eq, accrued, if_neg (Int.not_le.mpr hlt), satDur_eq _ h0 hgap, durSeconds_eq _ h0, Int.mul_comm]
  exact ⟨rfl, rfl⟩

theorem claim_amount_after_zero (now zero last D r : Int) (hge : zero ≤ now) :
    calcAmountToClaim now zero last D r = (D, 0) := by
  rw [calcAmountToClaim_eq, accrued, if_pos hge, Int.min_self, Int.sub_self]

/-- what `StreamWF` says of each stored stream (`r` its receiver) -/
structure StreamOK (now : Int) (r : Addr) (st : Stream) : Prop where
  rate : 1 ≤ st.rate
  denom : validDenom st.denom = true
  recv : isBlocked r = false
  lastLe : st.last ≤ now
  solv : Solv now st
  canc : st.cancellable = true

theorem streamWF_iff {now : Int} {x : SB} :
    StreamWF now x ↔ ∀ r s st, find? x.str.streams (r, s) = some st → StreamOK now r st :=
  ⟨fun h _ _ _ hf => ⟨h.rate _ _ hf, h.denom _ _ hf, h.recv _ _ _ hf, h.lastLe _ _ hf, h.solv _ _ hf, h.canc _ _ hf⟩,
   fun h => ⟨fun k st hf => (h k.1 k.2 st hf).rate, fun k st hf => (h k.1 k.2 st hf).denom, fun r s st hf => (h r s st hf).recv,
     fun k st hf => (h k.1 k.2 st hf).lastLe, fun k st hf => (h k.1 k.2 st hf).solv, fun k st hf => (h k.1 k.2 st hf).canc⟩⟩

theorem solv_after_claim {now : Int} {st : Stream} (hr : 1 ≤ st.rate) (hl : st.last ≤ now)
    (hgap : now - st.last ≤ maxI64) (hs : Solv now st) :
    Solv now (claimed now st) := by
  unfold claimed
  by_cases hz : st.zero ≤ now
  · rw [claim_amount_after_zero _ _ _ _ _ hz]
    exact Or.inr ⟨rfl, hz⟩
  · rw [(claim_amount_before_zero now st.zero st.last st.deposit st.rate (by omega) hl hgap).2]
    left; simp only
    rcases hs with hs | ⟨_, hz2⟩
    · -- r·⌊zero−now⌋ + r·⌊now−last⌋ ≤ r·⌊zero−last⌋ ≤ D, and what was released is at most r·⌊now−last⌋
      have hsup := secs_superadd (st.zero - now) (now - st.last)
      rw [show st.zero - now + (now - st.last) = st.zero - st.last by omega] at hsup
      have hmul := Int.mul_le_mul_of_nonneg_left hsup (Int.le_trans (by decide) hr)
      rw [Int.mul_add] at hmul
      have hmin := Int.min_le_right st.deposit (st.rate * secsOf (now - st.last))
      generalize min st.deposit (st.rate * secsOf (now - st.last)) = m at hmin ⊢
      omega
    · exact absurd hz2 hz

theorem StreamOK.claimed {now : Int} {r : Addr} {st : Stream} (h : StreamOK now r st) (hgap : now - st.last ≤ maxI64) :
    StreamOK now r (claimed now st) :=
  ⟨h.rate, h.denom, h.recv, Int.le_refl _, solv_after_claim h.rate h.lastLe hgap h.solv, h.canc⟩

theorem StreamOK.settled {now : Int} {r : Addr} {st : Stream} (h : StreamOK now r st) (hgap : now - st.last ≤ maxI64) :
    StreamOK now r (settled now st) := by
  unfold Mainchain.settled; split
  · exact h.claimed hgap
  · exact h

theorem solv_restart {now d : Int} {st : Stream} (hl : st.last = now) (hz : st.zero = addSeconds now d) (h0 : 0 ≤ d)
    (h1 : d ≤ maxDurationSeconds) (h : st.rate * d ≤ st.deposit) : Solv now st := by
  left
  rw [hz, hl, addSeconds_exact now d h0 h1, Int.add_comm, Int.add_sub_cancel, secs_mul]; exact h

/-- a top-up of `amt` buys `⌊amt / rate⌋` seconds: the extension is covered by what was added -/
theorem StreamOK.topped {now amt : Int} {r : Addr} {st : Stream} (h : StreamOK now r st) (h0 : 0 ≤ st.deposit)
    (hgap : now - st.last ≤ maxI64) (hamt : 0 ≤ amt) (hext : calcDuration amt st.rate ≤ maxDurationSeconds) :
    StreamOK now r (topped now amt st) := by
  obtain ⟨hd0, hd⟩ := calcDuration_bounds amt st.rate hamt h.rate
  have hs := h.settled hgap
  unfold Mainchain.topped
  split
  · have hnn : 0 ≤ (Mainchain.settled now st).deposit := by
      unfold Mainchain.settled; split
      · exact (calcAmountToClaim_le now st.zero st.last st.deposit st.rate).2
      · exact h0
    refine ⟨hs.rate, hs.denom, h.recv, Int.le_refl _, solv_restart rfl rfl hd0 hext ?_, hs.canc⟩
    show (Mainchain.settled now st).rate * _ ≤ (Mainchain.settled now st).deposit + amt
    rw [(settled_fields now st).2]; omega
  · refine ⟨h.rate, h.denom, h.recv, h.lastLe, Or.inl ?_, h.canc⟩
    show st.rate * secsOf (addSeconds st.zero (calcDuration amt st.rate) - st.last) ≤ st.deposit + amt
    rw [addSeconds_exact st.zero _ hd0 hext,
      show st.zero + calcDuration amt st.rate * nsPerSec - st.last = (st.zero - st.last) + calcDuration amt st.rate * nsPerSec by omega,
      secs_add_mul, Int.mul_add]
    rcases h.solv with h1 | ⟨_, h2⟩ <;> omega

theorem StreamOK.rerated {now rate : Int} {r : Addr} {st : Stream} (h : StreamOK now r st) (h0 : 0 ≤ st.deposit)
    (hrate : 1 ≤ rate) (hdur : 0 < st.deposit → calcDuration (Mainchain.claimed now st).deposit rate ≤ maxDurationSeconds) :
    StreamOK now r (rerated now rate st) := by
  unfold Mainchain.rerated
  split
  · rename_i hpos
    obtain ⟨hd0, hd⟩ := calcDuration_bounds _ rate (calcAmountToClaim_le now st.zero st.last st.deposit st.rate).2 hrate
    exact ⟨hrate, h.denom, h.recv, Int.le_refl _, solv_restart rfl rfl hd0 (hdur hpos) hd, h.canc⟩
  · exact ⟨hrate, h.denom, h.recv, h.lastLe, Or.inr ⟨by show st.deposit = 0; omega, Int.le_refl _⟩, h.canc⟩

theorem wf_set {now : Int} {x : SB} {r s : Addr} {st' : Stream} {str' : StreamState} (hwf : StreamWF now x)
    (hok : StreamOK now r st') (hstr : str' = setStream x r s st') {b : Bank} : StreamWF now { str := str', bank := b } := by
  subst hstr
  exact streamWF_iff.mpr (fun r' s' => forall_find_insert (P := fun (k : Addr × Addr) st => StreamOK now k.1 st) _ (r, s) st' hok
    (fun k st _ hf => streamWF_iff.mp hwf k.1 k.2 st hf) (r', s'))

theorem wf_of_streams_eq {now : Int} {x x' : SB} (hwf : StreamWF now x) (h : x'.str.streams = x.str.streams) :
    StreamWF now x' :=
  streamWF_iff.mpr (fun r s st hf => streamWF_iff.mp hwf r s st (h ▸ hf))

/-- What an operation on the stream `(r, s)` needs of it beyond `StreamWF`.  It is asked of this one stream so that `create`
can supply it for the fresh record of its intermediate state, where neither `StreamInv` nor `GapOK` is at hand. -/
def Workable (now : Int) (x : SB) (r s : Addr) : Prop :=
  ∀ st, find? x.str.streams (r, s) = some st → 0 ≤ st.deposit ∧ now - st.last ≤ maxI64

theorem claim_wf {x x' : SB} {now : Int} {blocked : Addr → Bool} {r s : Addr} {o : ClaimOut} (hwf : StreamWF now x)
    (hw : Workable now x r s) (h : claimFromStream x now blocked r s = .ok (x', o)) : StreamWF now x' := by
  obtain ⟨st, _, hf, _, _, _, _, _, _, _, _, _, hstr⟩ := claim_iff.mp h
  exact wf_set hwf ((streamWF_iff.mp hwf r s st hf).claimed (hw st hf).2) hstr

theorem Settles.wf {g : Prop} [Decidable g] {x y : SB} {now : Int} {blocked : Addr → Bool} {r s : Addr} (hwf : StreamWF now x)
    (hw : Workable now x r s) (h : Settles g x now blocked r s y) : StreamWF now y :=
  h.elim (fun _ _ ho => claim_wf hwf hw ho) (fun _ => hwf)

theorem addDeposit_wf {x x' : SB} {now : Int} {blocked : Addr → Bool} {r s : Addr} {denom : String} {amt : Int}
    (hwf : StreamWF now x) (hw : Workable now x r s) (hamt : 0 ≤ amt)
    (h : addDeposit x now blocked r s denom amt = .ok x') : StreamWF now x' := by
  obtain ⟨st, y, hf, _, _, hext, hy, _, hstr⟩ := addDeposit_iff.mp h
  exact wf_set (hy.wf hwf hw) ((streamWF_iff.mp hwf r s st hf).topped (hw st hf).1 (hw st hf).2 hamt hext) hstr

theorem setNewFlowRate_wf {x x' : SB} {now : Int} {blocked : Addr → Bool} {r s : Addr} {rate : Int}
    (hwf : StreamWF now x) (hw : Workable now x r s) (hrate : 1 ≤ rate)
    (h : setNewFlowRate x now blocked r s rate = .ok x') : StreamWF now x' := by
  obtain ⟨st, y, hf, hy, hdur, rfl⟩ := setNewFlowRate_iff.mp h
  exact wf_set (hy.wf hwf hw) ((streamWF_iff.mp hwf r s st hf).rerated (hw st hf).1 hrate hdur) rfl

theorem cancelStream_wf {x x' : SB} {now : Int} {blocked : Addr → Bool} {r s : Addr} (hbl : blocked Mstr = true)
    (hi : StreamInv x) (hwf : StreamWF now x) (hw : Workable now x r s) (h : cancelStream x now blocked r s = .ok x') :
    StreamWF now x' := by
  obtain ⟨st, y, hf, _, hy, _, _, hstr⟩ := cancelStream_iff.mp h
  refine streamWF_iff.mpr (fun r' s' st' hf' => ?_)
  rw [hstr, show find? (AL.erase y.str.streams (r, s)) (r', s') = _ from find_erase _ _ _ (hy.spec hbl hi hf).1.nodup] at hf'
  split at hf'
  · cases hf'
  · exact streamWF_iff.mp (hy.wf hwf hw) r' s' st' hf'

theorem KeeperOp.wf {now : Int} {S : Addr → Prop} {a b : SB} (hi : StreamInv a) (hwf : StreamWF now a) (hgap : GapOK now a)
    (hnow : 0 ≤ now) (h : KeeperOp now isBlocked S a b) : StreamWF now b := by
  have hw : ∀ r s, Workable now a r s := fun r s st hf => ⟨hi.nonneg _ _ hf, hgap _ _ hf⟩
  cases h with
  | create r s denom amt rate _ hr _ hamt hrate h =>
    obtain ⟨_, _, _, _, hvd, _⟩ := addDeposit_iff.mp h
    have hok : StreamOK now r (.fresh now denom rate) := ⟨hrate, hvd, hr, Int.le_refl _, Or.inr ⟨rfl, hnow⟩, rfl⟩
    refine addDeposit_wf (wf_set hwf hok rfl) (fun st hf => ?_) (Int.le_of_lt hamt) h
    rw [find_setStream] at hf
    cases hf
    exact ⟨Int.le_refl 0, by show now - now ≤ maxI64; unfold maxI64; omega⟩
  | claim r s o h => exact claim_wf hwf (hw r s) h
  | topup r s denom amt _ hamt h => exact addDeposit_wf hwf (hw r s) (Int.le_of_lt hamt) h
  | rate r s rate hrate h => exact setNewFlowRate_wf hwf (hw r s) hrate h
  | cancel r s h => exact cancelStream_wf isBlocked_Mstr hi hwf (hw r s) h

theorem wf_time {now now' : Int} {x : SB} (h : now ≤ now') (hwf : StreamWF now x) : StreamWF now' x :=
  ⟨hwf.rate, hwf.denom, hwf.recv, fun k st hk => by have := hwf.lastLe k st hk; omega,
   fun k st hk => by
     rcases hwf.solv k st hk with h1 | ⟨h1, h2⟩
     · exact Or.inl h1
     · exact Or.inr ⟨h1, by omega⟩, hwf.canc⟩

/-- History assumption of the rate theorems: `BankSane`, no stream left unclaimed for 2^63 ns (`GapOK`), and `0 ≤ s.time` : the record `CreateNewStream` stores first has the zero time 0 (`Stream.fresh`).  Only if `0 ≤ now` does
that lie in the past, as `Solv` asks of an empty stream and as the first deposit needs to restart the stream from `now`. -/
def RateQ (s : State) : Prop := BankSane s ∧ GapOK s.time (toSB s) ∧ 0 ≤ s.time

theorem strWF_step {s s' : State} (hq : RateQ s) (hi : StreamInv (toSB s)) (hwf : StreamWF s.time (toSB s))
    (h : FineStep s s') : StreamWF s'.time (toSB s') := by
  cases h with
  | leaf wall m r hl _ hsig h =>
    obtain ⟨hx, ht⟩ := leaf_strStep hl hsig h
    rw [ht]
    cases hx with
    | same h => rw [h]; exact hwf
    | fee fee h => rw [h]; exact wf_of_streams_eq hwf rfl
    | ensure ea h => rw [h]; exact wf_of_streams_eq hwf rfl
    | send a b coins bank _ _ _ hx => rw [hx]; exact wf_of_streams_eq hwf rfl
    | op h => exact h.wf hi hwf hq.2.1 hq.2.2
  | ante tx _ _ h =>
    cases h with
    | none hs => subst hs; exact hwf
    | unlock _ _ _ _ _ _ hs => subst hs; exact wf_of_streams_eq hwf rfl
    | deduct _ _ _ _ _ _ hs => subst hs; exact wf_of_streams_eq hwf rfl
  | time t ht hs => subst hs; exact wf_time ht hwf
  | complete id x _ hs => subst hs; exact wf_of_streams_eq hwf rfl
  | tally id e _ hs => subst hs; exact hwf

theorem strWF_reachable (g : GenCfg) (hg : GenBankValid g) (s : State) (h : FineReach g RateQ s) :
    StreamInv (toSB s) ∧ StreamWF s.time (toSB s) := by
  refine fine_inv g RateQ (fun s => StreamInv (toSB s) ∧ StreamWF s.time (toSB s)) ?_ ?_ s h
  · exact ⟨strInv_init g hg, streamWF_iff.mpr (fun r s st hf => by simp [toSB, initState] at hf)⟩
  · intro s s' hq hi hs
    exact ⟨strInv_step hq.1 hi.1 hs, strWF_step hq hi.1 hi.2 hs⟩

end Mainchain
