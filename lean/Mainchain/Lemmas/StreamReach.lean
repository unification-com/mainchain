import Mainchain.Lemmas.StreamInv
import Mainchain.Lemmas.Fine
import Mainchain.Lemmas.EntFrame
namespace Mainchain
open AL Bank

/-- history assumption about bank-lite's vesting bookkeeping: `LockedCoins` never reports a negative
amount (the SDK returns valid coin sets) -/
def BankSane (s : State) : Prop := ∀ a d, 0 ≤ Coins.amountOf (lockedCoins s.bank s.nowSec a) d

/-- `BankSane` with the block time spelt as the keeper computes it (stated because `h` itself is not accepted where the expected type still has metavariables) -/
theorem BankSane.at {s : State} (h : BankSane s) (a : Addr) (d : String) :
    0 ≤ Coins.amountOf (lockedCoins (toSB s).bank (s.time / nsPerSec) a) d := h a d

/-- the stream module and the bank after a signed leaf message, read off `MsgExec` -/
inductive StrStep (s : State) (x : SB) : Prop where
  | same (h : x = toSB s)
  | fee (fee : Int) (h : x = { toSB s with str := { s.str with fee := fee } })
  | ensure (ea : Addr) (h : x = { toSB s with bank := s.bank.ensureAccount ea })
  | send (a b : Addr) (coins : Coins) (bank : Bank) (ha : MaySign a) (hb : isBlocked b = false)
      (h : s.bank.sendCoins s.nowSec a b coins = .ok bank) (hx : x = { toSB s with bank := bank })
  | op (h : KeeperOp s.time isBlocked MaySign (toSB s) x)

theorem leaf_strStep {wall : Nat} {s s' : State} {m : Msg} {r : Resp} (hl : m.isLeaf = true) (hsig : m.SignedOK)
    (h : execMsg wall s m = .ok (s', r)) : StrStep s (toSB s') ∧ s'.time = s.time := by
  obtain ⟨sa, hsa, hmay⟩ := hsig
  rw [Msg.signer_eq] at hsa
  cases execMsg_ok h with
  | strCreate hx =>
    obtain ⟨ra, sa', hs, _, hbl, _, hfresh, hamt, hrate, _, hx⟩ := createStream_iff.mp hx
    cases hs.symm.trans hsa
    exact ⟨.op (.create ra sa _ _ _ hmay hbl hfresh hamt hrate hx), rfl⟩
  | strClaim hx =>
    obtain ⟨ra, sa', _, _, hx⟩ := claimStream_iff.mp hx
    exact ⟨.op (.claim ra sa' _ hx), rfl⟩
  | strTopup hx =>
    obtain ⟨ra, sa', _, hs, _, hamt, _, hx, _⟩ := topUpDeposit_iff.mp hx
    cases hs.symm.trans hsa
    exact ⟨.op (.topup ra sa _ _ hmay hamt hx), rfl⟩
  | strRate hx =>
    obtain ⟨ra, sa', _, _, hrate, hx⟩ := updateFlowRate_iff.mp hx
    exact ⟨.op (.rate ra sa' _ hrate hx), rfl⟩
  | strCancel hx =>
    obtain ⟨ra, sa', _, _, hx⟩ := cancelStreamMsg_iff.mp hx
    exact ⟨.op (.cancel ra sa' hx), rfl⟩
  | strParams => exact ⟨.fee _ rfl, rfl⟩
  | bankSend ha _ hb hbank =>
    cases ha.symm.trans hsa
    exact ⟨.send sa _ _ _ hmay hb hbank rfl, rfl⟩
  | authzGrant | feegrantGrant => exact ⟨.ensure _ rfl, rfl⟩
  | authzExec => cases hl
  | regReg | regRec | regBuy | regParams => exact ⟨.same (toSB_setReg _ _ _), time_setReg _ _ _⟩
  | _ => exact ⟨.same rfl, rfl⟩

theorem leaf_bank_rel (R : Bank → Bank → Prop) (ok : Addr → Prop) {s : State} (hR : BankRel R ok (s.time / nsPerSec))
    (hMstr : ok Mstr) (hMfee : ok Mfee)
    (hunbl : ∀ x, isBlocked x = false → ok x) (hsign : ∀ x, MaySign x → ok x)
    {wall : Nat} {s' : State} {m : Msg} {r : Resp} (hl : m.isLeaf = true) (hsig : m.SignedOK)
    (h : execMsg wall s m = .ok (s', r)) : R s.bank s'.bank := by
  have key : ∀ x : SB, StrStep s x → R s.bank x.bank := by
    intro x hx
    cases hx with
    | same h => subst h; exact hR.refl _
    | fee fee h => subst h; exact hR.refl _
    | ensure ea h => subst h; exact hR.ensure _ ea
    | send a b coins bank ha hb h hx => subst hx; exact hR.send _ _ _ _ _ (hsign a ha) (hunbl b hb) h
    | op h => exact h.rel hR hMstr hMfee hunbl hsign
  exact key _ (leaf_strStep hl hsig h).1

theorem strInv_leaf {wall : Nat} {s s' : State} {m : Msg} {r : Resp} (hl : m.isLeaf = true) (hsig : m.SignedOK)
    (hq : BankSane s) (hi : StreamInv (toSB s)) (h : execMsg wall s m = .ok (s', r)) : StreamInv (toSB s') := by
  have key : ∀ x : SB, StrStep s x → StreamInv x := by
    intro x hx
    cases hx with
    | same h => subst h; exact hi
    | fee fee h => subst h; exact ⟨hi.nodup, hi.bank, hi.modNoVest, hi.nonneg, hi.backed⟩
    | ensure ea h =>
      subst h
      exact streamInv_of_bank hi (ensureAccount_inv _ _ hi.bank)
        (fun a ha => (ensureAccount_frame s.bank ea).2.2 ▸ hi.modNoVest a ha) (balOf_ensureAccount _ _ _)
    | send a b coins bank ha hb h hx =>
      subst hx
      obtain ⟨ib, _, vb, eb, _⟩ := sendCoins_spec hi.bank (hq a) h
      exact hi.transfer ib (fun _ h => vb ▸ h) eb (maySign_ne_Mstr a ha) (ne_of_blocked hb isBlocked_Mstr)
    | op h => exact h.inv isBlocked_Mstr maySign_ne_Mstr hq.at hi
  exact key _ (leaf_strStep hl hsig h).1

/-- a completion moves nothing at the stream escrow -/
theorem strInv_complete (s : State) (id : Nat) (x : EB) (hi : StreamInv (toSB s))
    (h : EB.completeOne { ent := s.ent, bank := s.bank } s.nowSec isBlocked id = .ok x) :
    StreamInv { str := s.str, bank := x.bank } := by
  rcases completeOne_bank h with he | ⟨r, c, b1, b2, h1, h2, h3⟩
  · rw [he]; exact hi
  · obtain ⟨ib, hbal, _, hv⟩ := mintLock_bank (b := s.bank) hi.bank (hi.modNoVest Ment (by decide)) h1 h2 h3
    refine streamInv_of_bank hi ib (fun a ha => hv a (hi.modNoVest a ha)) (fun d => ?_)
    have := hbal Mstr d
    rw [if_neg (fun h => absurd h.1 (by decide))] at this
    show x.bank.balOf Mstr d = s.bank.balOf Mstr d
    omega

theorem strInv_step {s s' : State} (hq : BankSane s) (hi : StreamInv (toSB s)) (h : FineStep s s') :
    StreamInv (toSB s') := by
  cases h with
  | leaf wall m r hl _ hsig h => exact strInv_leaf hl hsig hq hi h
  | ante tx hu hg h =>
    cases h with
    | none hs => subst hs; exact hi
    | unlock payer x hp _ _ h hs =>
      subst hs
      rcases unlockForFees_bank h with he | ⟨amt, hund⟩
      · show StreamInv { str := s.str, bank := x.bank }
        rw [he]; exact hi
      · obtain ⟨ib, _, vb, eb, _⟩ := undelegate_spec hi.bank (hq Ment) hund
        exact hi.transfer ib vb eb (by decide) (maySign_ne_Mstr payer (Or.inl (payer_user hu hp)))
    | deduct payer src b hp hsrc h hs =>
      subst hs
      obtain ⟨ib, _, vb, eb, _⟩ := sendCoins_spec hi.bank (hq src) h
      exact hi.transfer ib (fun _ h => vb ▸ h) eb (maySign_ne_Mstr src (feeSource_maySign hu hg hp hsrc)) (by decide)
  | time t _ hs => subst hs; exact hi
  | complete id x h hs => subst hs; exact strInv_complete s id x hi h
  | tally id e _ hs => subst hs; exact hi

def GenBankValid (g : GenCfg) : Prop := BankInv (initState g).bank ∧ (∀ a, 1000 ≤ a → AL.find? (initState g).bank.vest a = none) ∧
  (∀ d, (initState g).bank.balOf Mstr d = 0)

theorem strInv_init (g : GenCfg) (hg : GenBankValid g) : StreamInv (toSB (initState g)) := by
  refine ⟨by simp [toSB, initState, NoDupKeys, keys], hg.1, hg.2.1, by simp [toSB, initState], ?_⟩
  intro d
  show ((initState g).bank.balOf Mstr d : Int) = sumF (depIn d) (initState g).str.streams
  rw [hg.2.2 d]; simp [initState, sumF]

theorem strInv_reachable (g : GenCfg) (hg : GenBankValid g) (s : State) (h : FineReach g BankSane s) :
    StreamInv (toSB s) :=
  fine_inv g BankSane (fun s => StreamInv (toSB s)) (strInv_init g hg)
    (fun _ _ => strInv_step) s h

end Mainchain
