import Mainchain.Lemmas.Exec
import Mainchain.Lemmas.NodeReach
/-
C01 — Deterministic, restart-safe replicated state machine.

The model is a function of the genesis and the block list, so two executions of the same history agree by
construction.  The theorems below isolate the two things that can differ between nodes at the level of
the model — the wall clock and a crash — and pin, from facts regenerated out of the source on every run,
the sites where the implementation could leave the deterministic world.
-/
namespace Mainchain
namespace C01
open AL

/-- `ValidateBasic` of `MsgRecordBeaconTimestamp` rejects a zero submit time (regenerated from
x/beacon/types/msgs.go), so the wall-clock fallback of the message server is dead code -/
theorem c01_submit_time_zero_rejected : Facts.beaconSubmitTimeZeroRejected = true := rfl

theorem record_wall_eq (r : RegState) (now w1 w2 id key : Nat) (rc : Rec) (o : AddrTok)
    (hvb : r.vbRecord id key rc o = .ok ()) : r.record now w1 id key rc o = r.record now w2 id key rc o := by
  unfold RegState.record
  cases hk : r.kind with
  | wrk => rfl
  | bcn =>
    simp only [RegState.vbRecord, hk, bind_eq_ok, require_eq_ok, decide_eq_true_eq] at hvb
    obtain ⟨_, _, _, _, _, _, _, hst, _⟩ := hvb
    simp only [if_neg hst]

/-- a handler that passed `ValidateBasic` never looks at the wall clock: only the BEACON record handler could, and
`dispatch` validates every wrapped message before it runs -/
theorem exec_wall_eq (w1 w2 : Nat) (m : Msg) : ∀ s, Msg.validateBasic s m = .ok () → execMsg w1 s m = execMsg w2 s m := by
  induction m using Msg.nest_induction with
  | leaf m hl =>
    intro s hvb
    cases m with
    | regRec k id key rc o =>
      simp only [execMsg]
      rw [record_wall_eq (s.reg k) s.nowSecU w1 w2 id key rc o hvb]
    | authzExec => cases hl
    | _ => rfl
  | exec g msgs ih =>
    have key : ∀ grantee s, dispatch w1 grantee s msgs = dispatch w2 grantee s msgs := by
      intro grantee
      induction msgs with
      | nil => intro _; rfl
      | cons x xs ihx =>
        intro s
        simp only [dispatch]
        refine bind_congr_ok fun _ _ => bind_congr_ok fun _ _ => bind_congr_ok fun _ hv => ?_
        rw [ih x List.mem_cons_self s hv]
        exact bind_congr_ok fun r _ => ihx (fun m hm => ih m (List.mem_cons_of_mem _ hm)) r.1
    intro s _
    simp only [execMsg, key]

/-- **The wall clock cannot influence any message**, at any nesting depth: the message-service router
runs `ValidateBasic` before every handler, top level and inside authorisation-exec wrappers. -/
theorem c01_handle_wall_irrelevant (w1 w2 : Nat) (s : State) (m : Msg) : handle w1 s m = handle w2 s m :=
  bind_congr_ok fun _ hv => exec_wall_eq w1 w2 m s hv

theorem handle_wall_eq (w1 w2 : Nat) : handle w1 = handle w2 :=
  funext fun s => funext fun m => c01_handle_wall_irrelevant w1 w2 s m

theorem runMsgs_wall_eq (w1 w2 : Nat) : runMsgs w1 = runMsgs w2 := by
  unfold runMsgs; rw [handle_wall_eq w1 w2]

/-- **Wall-clock independence of the whole application**: every DeliverTx (result and state), every
governance execution, and therefore every block and every run, is the same whatever the wall clock reads. -/
theorem c01_wall_clock_irrelevant (order : List String) (w1 w2 : Nat) (s : State) (tx : Tx) (m : Msg) :
    deliverTx order w1 s tx = deliverTx order w2 s tx ∧ govExec w1 s m = govExec w2 s m ∧
    ∀ msgs, govExecAll w1 s msgs = govExecAll w2 s msgs := by
  -- the wall clock reaches all three only through `handle` and `runMsgs`
  simp only [deliverTx, govExec, govExecAll, runMsgs_wall_eq w1 w2, handle_wall_eq w1 w2, true_and, implies_true]

/-- … and so is a whole block -/
theorem c01_block_wall_irrelevant (w1 w2 : Nat) (n : Node) (b : Block) : n.runBlock w1 b = n.runBlock w2 b := by
  have hd : deliverTx Facts.anteOrder w1 = deliverTx Facts.anteOrder w2 :=
    funext fun s => funext fun tx => (c01_wall_clock_irrelevant _ w1 w2 s tx default).1
  have hg : govExecAll w1 = govExecAll w2 :=
    funext fun s => funext fun ms => (c01_wall_clock_irrelevant [] w1 w2 s default default).2.2 ms
  simp only [Node.runBlock, Node.deliver, Node.endBlock, hd, hg]

/-- the steps a node can take inside a block, without committing -/
inductive InBlock : Node → Node → Prop where
  | refl (n : Node) : InBlock n n
  | begin (n n1 n2 : Node) (t : Int) (h : InBlock n n1) (hb : n1.begin t = .ok n2) : InBlock n n2
  | deliver (n n1 : Node) (wall : Nat) (tx : Tx) (h : InBlock n n1) : InBlock n (n1.deliver wall tx).1
  | check (n n1 : Node) (tx : Tx) (h : InBlock n n1) : InBlock n (n1.checkTx tx).1
  | recheck (n n1 : Node) (tx : Tx) (h : InBlock n n1) : InBlock n (n1.recheckTx tx).1
  | endBlock (n n1 : Node) (wall : Nat) (govs : List (List Msg)) (h : InBlock n n1) : InBlock n (n1.endBlock wall govs).1

/-- only Commit changes the committed state -/
theorem c01_only_commit_publishes (n n' : Node) (h : InBlock n n') : n'.committed = n.committed := by
  induction h with
  | refl => rfl
  | begin n1 n2 t _ hb ih =>
    simp only [Node.begin, bind_eq_ok, pure_eq_ok] at hb
    obtain ⟨_, _, rfl⟩ := hb; exact ih
  | deliver n1 wall tx _ ih => exact ih
  | check n1 tx _ ih => exact ih
  | recheck n1 tx _ ih => exact ih
  | endBlock n1 wall govs _ ih => exact ih

theorem runBlock_depends_on_committed_only (n n' : Node) (wall : Nat) (b : Block) (h : n'.committed = n.committed) :
    n'.runBlock wall b = n.runBlock wall b := by
  unfold Node.runBlock Node.begin
  rw [h]
  cases beginBlock Facts.beginBlockSteps { n.committed with time := b.time } with
  | error e => rfl
  | ok s =>
    simp only [bind, Except.bind, pure, Except.pure]
    -- the two nodes differ in their check states only: DeliverTx works on the working state, Commit overwrites the check state
    have h1 : ∀ (txs : List Tx) (a a' : Node), a'.working = a.working →
        (txs.foldl (fun (n : Node) tx => (n.deliver wall tx).1) a').working = (txs.foldl (fun (n : Node) tx => (n.deliver wall tx).1) a).working := by
      intro txs
      induction txs with
      | nil => intro a a' hw; exact hw
      | cons tx txs ih => intro a a' hw; simp only [List.foldl_cons]; exact ih _ _ (by simp [Node.deliver, hw])
    have hw := h1 b.txs { committed := n.committed, working := s, check := n.check } { committed := n.committed, working := s, check := n'.check } rfl
    simp only [Node.endBlock, Node.commit, hw]

/-- **Crash and replay.**  A node that stops at any point inside a block — after BeginBlock, after the
k-th DeliverTx (and any CheckTx in between), after EndBlock — restarts with the last committed state
(`resumes at the last committed height with the last committed hash`), and replaying the interrupted
block yields exactly the node that never stopped. -/
theorem c01_crash_replay (n n' : Node) (h : InBlock n n') (wall : Nat) (b : Block) :
    n'.crash.committed = n.committed ∧ n'.crash.working = n.committed ∧ n'.crash.runBlock wall b = n.runBlock wall b := by
  have hc := c01_only_commit_publishes n n' h
  exact ⟨hc, hc, runBlock_depends_on_committed_only n n'.crash wall b hc⟩

/-- the map-range in `check*MaxSlots` cannot influence the outcome: the test that `checkMaxSlots` (Model/Tx) applies
to its per-id table — some entry exceeds its maximum — is stated here for an arbitrary table, and gives the same
answer on every reordering of it -/
theorem c01_slot_check_order_independent (tbl tbl' : List (Nat × (Nat × Nat))) (h : tbl.Perm tbl') :
    tbl.any (fun e => e.2.2 > e.2.1) = tbl'.any (fun e => e.2.2 > e.2.1) := h.any_eq

/-- the sites of the consensus-path packages (x/, ante/, app/, types/; tests, simulation, CLI and generated
code excluded) that read the wall clock, use math/rand, start goroutines or range over a map — regenerated
from the source on every run — are exactly the audited ones: the telemetry timing in the enterprise
BeginBlocker and the dead BEACON fallback; no math/rand; no goroutines; the two slot-check loops (order
independent, above) and two app-wiring helpers that build sets -/
theorem c01_nondeterminism_sites :
    Facts.wallClockSites = [("x/beacon/keeper/msg_server.go", "msgServer.RecordBeaconTimestamp"), ("x/enterprise/abci.go", "BeginBlocker")] ∧
    Facts.randSites = [] ∧ Facts.goStmtSites = [] ∧
    Facts.mapRangeSites = [("app/app.go", "BlockedAddresses"), ("app/app.go", "GetMaccPerms"),
      ("x/beacon/ante/ante.go", "checkBeaconMaxSlots"), ("x/wrkchain/ante/ante.go", "checkWrkChainMaxSlots")] ∧
    -- every early exit of a loop over a map is the same error: the result code cannot depend on the iteration order
    Facts.mapRangeExits = [("x/beacon/ante/ante.go", "checkBeaconMaxSlots", "return ErrExceedsMaxStorage"),
      ("x/wrkchain/ante/ante.go", "checkWrkChainMaxSlots", "return ErrExceedsMaxStorage")] :=
  ⟨rfl, rfl, rfl, rfl, rfl⟩

/-- **The machine that is compared with the application is the machine the theorems are about.**  Whatever script
the compiled model driver (`mdriver`, `Script.step` line by line) is fed — the same lines the harness feeds the real
application — every state of its node (committed, deliver and check state) is a state of the transition system
`Reachable g` of the scenario genesis, provided block times do not go backwards and every genesis round trip in the
script is the identity (the conclusion of `c15_export_import_identity`, which that theorem reaches when no registration
retains more than 20,000 records and under its own genesis and history assumptions — `BooksQ`, `RegQ`, an empty gov
account — that `Reachable g` does not supply).  So every invariant proved for all states of `Reachable g` holds in every
state the correspondence runs visit (not, by this theorem, those proved for `FineReach g Q` under a history assumption
`Q`: from `Reachable g`, `reachable_fine` gives `FineReach g (fun _ => True)` only), and a disagreement between driver and
application is a disagreement with the model the proofs quantify over. -/
theorem c01_driver_stays_inside_the_transition_system (g : GenCfg) (wall : Nat) (lines : List String)
    (hok : ScriptOK g wall {} lines) (n : Node)
    (hn : (lines.foldl (fun (it : Script.Interp) l => (Script.step wall it l).1) {}).node = some n) :
    Reachable g n.committed ∧ Reachable g n.working ∧ Reachable g n.check := by
  have h0 : InterpReach g {} := by intro n hn; cases hn
  have := script_reach g wall lines {} h0 hok n hn
  exact ⟨this.committed, this.working, this.check⟩

end C01
end Mainchain
