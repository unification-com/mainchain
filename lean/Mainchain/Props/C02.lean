import Mainchain.Lemmas.BankTotal
/-
C02 — Native coin supply changes only through approved purchase orders.

`FineReach g (BooksQ D) s` as in C04.  Supply and balances are those of bank-lite (the model of
x/bank restricted to the scenario accounts and the module accounts; the validator environment —
staking, distribution, gov deposits — is outside the model and is compared as a delta by the
correspondence harness).
-/
namespace Mainchain
namespace C02
open AL Bank

/-- The recorded supply changes in exactly one kind of elementary step: the completion of an accepted
purchase order (`FineStep.complete`; that the runs take this step only inside BeginBlock is how `chainStep_fine`
builds their paths, not part of this statement), and then by exactly that order's amount in the enterprise
denomination.  Every message of every kind (transfers, stream operations, registrations, parameter
updates, authz-wrapped or governance-executed), every ante effect (fee deduction, eFUND unlock), the
tally and block-time advance leave the supply of every denomination unchanged; nothing in the model
burns. -/
theorem c02_supply_changes_only_by_completion (g : GenCfg) (hg : GenBooksValid g) (s s' : State)
    (h : FineReach g (BooksQ g.ent.denom) s) (hq : BooksQ g.ent.denom s) (hs : FineStep s s') :
    (∀ d, s'.bank.supplyOf d = s.bank.supplyOf d) ∨
    (∃ id po, find? s.ent.orders id = some po ∧ po.status = stAccepted ∧ po.denom = g.ent.denom ∧
      find? s'.ent.orders id = some { po with status := stCompleted } ∧
      ∀ d, (s'.bank.supplyOf d : Int) = s.bank.supplyOf d + (if d = g.ent.denom then po.amt else 0)) := by
  have ha := entAll_reachable g hg s h
  rcases fineStep_books_cases hq.2.2 ha.str ha.book ha.books hs with ⟨_, hsup, _⟩ | ⟨id, x, po, a, hx, rfl, hf, hst, hd, c⟩ |
    ⟨_, _, x, _, rfl, _, _, _, _, u, _⟩
  · exact Or.inl fun d => by unfold supplyOf; rw [hsup]
  · exact Or.inr ⟨id, po, hf, hst, c.denom, (completeOne_credit hx hf hd).1, c.supply⟩
  · -- the unlock undelegates: no supply moves
    exact Or.inl fun d => by show x.bank.supplyOf d = _; unfold supplyOf; rw [u.supply]

/-- **Σ balances = supply.**  In every state of every run (in particular at every block boundary) the sum
over all accounts of the balances in a denomination equals the recorded supply of that denomination, for
every denomination. -/
theorem c02_balances_sum_to_supply (g : GenCfg) (hg : GenBooksValid g) (hb : Balanced (initState g).bank) (s : State)
    (h : FineReach g (BooksQ g.ent.denom) s) (d : String) : (s.bank.totalOf d : Int) = s.bank.supplyOf d :=
  balanced_reachable g hg hb s h d

/-- the bank's `MintCoins` is called at exactly one place in the application code that `NewApp`
reaches: `MintCoinsAndLock` of x/enterprise (the second call site is the test helper
`initAccountWithCoins`); nothing calls `BurnCoins`; no x/mint module is wired; only the enterprise and
IBC transfer module accounts hold the Minter permission.  Regenerated from the source on every run. -/
theorem c02_mint_sites_and_permissions :
    Facts.mintCallSites = [("app/test_helpers.go", "initAccountWithCoins"), ("x/enterprise/keeper/locked.go", "Keeper.MintCoinsAndLock")] ∧
    Facts.burnCallSites = [] ∧
    Facts.moduleManagerNames.contains "mint" = false ∧ Facts.moduleManagerModules.contains "mint" = false ∧
    (Facts.maccPerms.filter (fun e => e.2.contains "minter")).map (·.1) = ["enterprise", "transfer"] :=
  ⟨rfl, rfl, by simp [Facts.moduleManagerNames], by simp [Facts.moduleManagerModules], minters_eq⟩

/-- the only bank operation of the model that changes a supply is `mint`, and the model calls it only
from `mintAndLock` (called only from `completeOne`); a successful `mintAndLock` of a positive coin adds
exactly that coin to the supply and to the escrow -/
theorem c02_mint_adds_exactly (D : String) (y y' : EB) (now : Int) (a : Addr) (c : Coin) (hc : 0 < c.amt)
    (hokL : ∀ b k, find? y.ent.locked b = some k → k.denom = D ∧ 0 ≤ k.amt)
    (htl : y.ent.totalLocked.denom = D) (hbank : BankInv y.bank) (hnv : find? y.bank.vest Ment = none)
    (h : EB.mintAndLock y now isBlocked a c = .ok y') :
    c.denom = D ∧ (∀ d', (y'.bank.supplyOf d' : Int) = y.bank.supplyOf d' + (if d' = D then c.amt else 0)) ∧
    (∀ a' d', (y'.bank.balOf a' d' : Int) = y.bank.balOf a' d' + (if a' = Ment ∧ d' = D then c.amt else 0)) := by
  rcases EB.mintAndLock_iff.mp h with ⟨h0, _⟩ | ⟨_, _, _, b1, b2, b3, h1, h2, h3, _, _, hd, _, rfl⟩
  · exact absurd h0 (Int.ne_of_gt hc)
  · obtain ⟨_, hbal, hsup, _⟩ := mintLock_bank hbank hnv h1 h2 h3
    have hcD : c.denom = D := hd.symm.trans htl
    rw [hcD] at hbal hsup
    exact ⟨hcD, hsup, hbal⟩

-- non-vacuity: a concrete scenario genesis is balanced
def C02ex : GenCfg :=
  { timeSec := 1700000000,
    accts := [{ id := 0, exists_ := true, balance := [{ denom := "atoken", amt := 7 }, { denom := "nund", amt := 1000 }], vest := none },
              { id := 1, exists_ := true, balance := [{ denom := "nund", amt := 500 }], vest := none }] }
example : ∀ d ∈ ["nund", "atoken"], ((initState C02ex).bank.totalOf d : Int) = (initState C02ex).bank.supplyOf d := by decide

end C02
end Mainchain
