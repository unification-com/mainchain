import Mainchain.Lemmas.EntBlock
/-
C03 — Purchase orders mint only after quorum approval, exactly once.

`FineReach g EntQ s` : `s` is any state of any run from the scenario genesis `g` (every message kind,
authz nesting of any depth, governance, ante effects, block hooks) along which the 64-bit order-id
counter has not reached 2^64 − 1 (history assumption `EntQ`).
-/
namespace Mainchain
namespace C03
open AL

/-- A purchase order can be raised only by a whitelisted address (for a positive amount in the
enterprise denomination); it starts raised, undecided, with the next order id. -/
theorem c03_raise_requires_whitelisted (wall : Nat) (s s' : State) (r : Resp) (p : AddrTok) (amt : Int) (denom : String)
    (h : execMsg wall s (.entRaise p amt denom) = .ok (s', r)) :
    ∃ a, p.decode = some a ∧ s.ent.whitelist.contains a = true ∧ denom = s.ent.params.denom ∧ 0 < amt ∧
      find? s'.ent.orders s.ent.nextId = some { id := s.ent.nextId, purchaser := p, denom := denom, amt := amt, status := stRaised, raiseTime := s.nowSecU, completionTime := 0, decisions := [] } := by
  cases execMsg_ok h with
  | entRaise hx =>
    obtain ⟨a, ha, hd, hamt, hwl, _, rfl⟩ := EntState.raise_ok hx
    exact ⟨a, ha, hwl, hd, hamt, find_insert_eq _ _ _⟩

/-- A decision is recorded only for a currently authorised signer, on an order that is still raised,
which that signer (whatever the spelling of its address) has not decided yet; the decision is
appended under the canonical spelling and nothing else of the order changes. -/
theorem c03_decision_requires_current_signer (wall : Nat) (s s' : State) (r : Resp) (id dec : Nat) (sg : AddrTok)
    (h : execMsg wall s (.entDecide id dec sg) = .ok (s', r)) :
    ∃ a po, sg.decode = some a ∧ a ∈ s.ent.params.signerAddrs ∧ find? s.ent.orders id = some po ∧
      po.status = stRaised ∧ (dec = stAccepted ∨ dec = stRejected) ∧
      (∀ d ∈ po.decisions, d.signer.decode ≠ some a) ∧
      find? s'.ent.orders id = some { po with decisions := po.decisions ++ [{ signer := AddrTok.canon a, decision := dec, time := s.nowSecU }] } := by
  cases execMsg_ok h with
  | entDecide he =>
    obtain ⟨a, po, ha, hauth, hf, hdec, hst, hnot, rfl⟩ := EntState.decide_ok he
    exact ⟨a, po, ha, List.contains_iff_mem.mp hauth, hf, hst, by simpa [validAcceptReject] using hdec,
      fun d hd => (EntState.alreadyDecided_false.mp hnot d hd).2, find_insert_eq _ _ _⟩

/-- In every state of every run each order's decisions come from pairwise distinct signer addresses
(one decision per signer), each an accept or a reject stored under the canonical spelling. -/
theorem c03_one_decision_per_signer (g : GenCfg) (s : State) (h : FineReach g EntQ s) (id : Nat) (po : PO)
    (hf : find? s.ent.orders id = some po) :
    (po.decisions.map (fun d => d.signer.decode)).Nodup ∧
    ∀ d ∈ po.decisions, (∃ a, d.signer = AddrTok.canon a) ∧ (d.decision = stAccepted ∨ d.decision = stRejected) := by
  have hd := (bookInv_reachable g s h).decs id po hf
  refine ⟨hd.1, fun d hm => ⟨(hd.2 d hm).1, ?_⟩⟩
  simpa [validAcceptReject] using (hd.2 d hm).2

/-- the tally rule of the statement, in plain arithmetic -/
def tallyRule (signers minAccepts limit now raiseTime accepts rejects : Nat) : Option Nat :=
  if now - raiseTime ≥ limit ∧ accepts < minAccepts then some stRejected
  else if rejects > signers - minAccepts then some stRejected
  else if accepts ≥ minAccepts then some stAccepted
  else none

/-- The decision function of the code (64-bit and `int` conversions included) is the three-clause rule
of the statement, in that priority, whenever the parameters are valid and time has not run backwards. -/
theorem c03_tally_rule (p : EntParams) (now : Nat) (po : PO) (hv : p.minAccepts ≤ p.signers.length)
    (hsmall : p.minAccepts < two63) (ht : po.raiseTime ≤ now) :
    EntState.tallyDecision p now po =
      tallyRule p.signers.length p.minAccepts p.decisionLimit now po.raiseTime
        (po.decisions.filter (·.decision = stAccepted)).length (po.decisions.filter (·.decision = stRejected)).length := by
  have h1 : intOfU64 p.minAccepts = (p.minAccepts : Int) := if_pos hsmall
  have h2 : subU64 now po.raiseTime = now - po.raiseTime := if_pos ht
  -- what is left are comparisons of casts, the one subtraction being exact by `hv`
  simp only [EntState.tallyDecision, tallyRule, h1, h2, ← Int.ofNat_sub hv, Int.ofNat_lt, Int.ofNat_le, ge_iff_le, gt_iff_lt]

/-- **An order is accepted only on the accepts of at least `MinAccepts` pairwise distinct addresses** — however often an
address is listed in the signer parameter, whoever else decided, and whatever happened to the signer list since: the tally
counts the accept decisions recorded on the order, and in every state of every run those come from pairwise distinct
addresses (one decision per address, each made by an address that was an authorised signer when it decided:
`c03_decision_requires_current_signer`).  For `MinAccepts` below 2^63 (`hsmall`): the code compares after a conversion
to `int`, and parameter validation bounds `MinAccepts` only by the number of listed signers. -/
theorem c03_accept_needs_min_accepts_distinct_addresses (g : GenCfg) (s : State) (h : FineReach g EntQ s) (id : Nat) (po : PO)
    (hf : find? s.ent.orders id = some po) (now : Nat) (hv : s.ent.params.minAccepts ≤ s.ent.params.signers.length)
    (hsmall : s.ent.params.minAccepts < two63) (ht : po.raiseTime ≤ now)
    (hacc : EntState.tallyDecision s.ent.params now po = some stAccepted) :
    s.ent.params.minAccepts ≤ (po.decisions.filter (·.decision = stAccepted)).length ∧
    ((po.decisions.filter (·.decision = stAccepted)).map (fun d => d.signer.decode)).Nodup := by
  constructor
  · rcases EntState.tallyDecision_some hacc with hr | ⟨_, hq⟩
    · cases hr
    · rw [intOfU64, i64OfU64, if_pos hsmall] at hq; exact Int.ofNat_le.mp hq
  · exact List.Nodup.sublist (List.Sublist.map _ List.filter_sublist) (c03_one_decision_per_signer g s h id po hf).1

/-- At each block every raised order gets exactly the decision of the rule (stale/rejected →
rejected, quorum → accepted, otherwise it stays raised); the tally changes no other order. -/
theorem c03_tally_applies_rule_to_every_raised_order (g : GenCfg) (s : State) (h : FineReach g EntQ s)
    (now : Nat) (e' : EntState) (ht : s.ent.tally now = .ok e') (id : Nat) (po : PO) (hf : find? s.ent.orders id = some po) :
    find? e'.orders id = some (if po.status = stRaised then tallyRec s.ent.params now po else po) ∧
    tallyRec s.ent.params now po =
      (match EntState.tallyDecision s.ent.params now po with
       | none => po
       | some st => { po with status := st, completionTime := now }) :=
  ⟨tally_spec (bookInv_reachable g s h) ht id po hf, rfl⟩

/-- Status only ever moves raised → accepted → completed or raised → rejected: between any state of a
run and any later state of the same run every order is still there with the same id, purchaser,
amount and raise time, its status further along that order, its decisions and completion time unchanged once
it is no longer raised (that until then decisions are only appended is `POEvolves.decisions` in Lemmas/EntLife, not part
of this statement); rejected and completed orders are identical for ever. -/
theorem c03_status_transitions_and_terminal_frozen (g : GenCfg) (a b : State) (ha : FineReach g EntQ a)
    (hp : FinePathQ EntQ a b) (id : Nat) (po : PO) (hf : find? a.ent.orders id = some po) :
    ∃ po', find? b.ent.orders id = some po' ∧ po'.id = po.id ∧ po'.purchaser = po.purchaser ∧ po'.amt = po.amt ∧
      po'.denom = po.denom ∧ po'.raiseTime = po.raiseTime ∧ StatusLE po.status po'.status ∧
      (po.status = stRejected ∨ po.status = stCompleted → po' = po) ∧
      (po.status ≠ stRaised → po'.decisions = po.decisions ∧ po'.completionTime = po.completionTime) := by
  obtain ⟨po', hf', ev⟩ := path_bookLE ha hp id po hf
  exact ⟨po', hf', ev.id, ev.purchaser, ev.amt, ev.denom, ev.raiseTime, ev.status, ev.frozen,
    fun hne => ⟨ev.decisionsFrozen hne, ev.completionFrozen hne⟩⟩

/-- the enterprise BeginBlocker of the repository runs the completion pass before the tally
(regenerated from x/enterprise/abci.go on every run) -/
theorem c03_begin_block_order : Facts.beginBlockSteps = ["ProcessAcceptedPurchaseOrders", "TallyPurchaseOrderDecisions"] :=
  rfl

/-- An accepted order is completed in the following block: BeginBlock completes every order that was
accepted when the block began, and an order that is accepted after BeginBlock was raised when the block
began (it was accepted by this block's tally).  "Not earlier" needs two more facts that are not part of this
statement: the same BeginBlock does not also complete an order it has just accepted (`beginBlock_orders` in
Lemmas/EntBlock gives every order's exact status after it), and no message changes a status. -/
theorem c03_completed_in_the_following_block (g : GenCfg) (s s' : State) (h : FineReach g EntQ s)
    (hb : beginBlock Facts.beginBlockSteps s = .ok s') (id : Nat) (po : PO) (hf : find? s.ent.orders id = some po) :
    (po.status = stAccepted → find? s'.ent.orders id = some { po with status := stCompleted }) ∧
    (∀ po', find? s'.ent.orders id = some po' → po'.status = stAccepted → po.status = stRaised) := by
  have hs := beginBlock_orders (bookInv_reachable g s h) hb id po hf
  constructor
  · intro ha; rw [hs, if_pos ha]
  · intro po' hf' hacc
    rw [hs] at hf'
    by_cases h1 : po.status = stAccepted
    · rw [if_pos h1] at hf'
      cases hf'
      exact absurd hacc (by decide : stCompleted ≠ stAccepted)
    · by_cases h2 : po.status = stRaised
      · exact h2
      · rw [if_neg h1, if_neg h2] at hf'
        cases hf'
        exact absurd hacc h1

/-- Completing an order credits exactly its amount as locked eFUND to its purchaser (and to the
total), once: the completion step needs status accepted and leaves status completed. -/
theorem c03_completion_credits_exactly_the_amount (x x' : EB) (now : Int) (id : Nat)
    (h : EB.completeOne x now isBlocked id = .ok x') :
    ∃ po a, find? x.ent.orders id = some po ∧ po.status = stAccepted ∧ po.purchaser.decode = some a ∧
      find? x'.ent.orders id = some { po with status := stCompleted } ∧
      (x'.ent.lockedOf a).amt = (x.ent.lockedOf a).amt + po.amt ∧
      x'.ent.totalLocked.amt = x.ent.totalLocked.amt + po.amt ∧
      (∀ b, b ≠ a → find? x'.ent.locked b = find? x.ent.locked b) := by
  obtain ⟨po, a, hf, hst, ha, _⟩ := EB.completeOne_ok h
  obtain ⟨h1, h2, h3, h4, _⟩ := completeOne_credit h hf ha
  exact ⟨po, a, hf, hst, ha, h1, h2, h3, h4⟩

/-- The order book (ids, statuses, queues) is consistent in every state of every run: the raised /
accepted queues hold exactly the ids of the orders with that status, without repetition; every order
is stored under its own id, below the id counter, with a valid status. -/
theorem c03_queues_match_status (g : GenCfg) (s : State) (h : FineReach g EntQ s) :
    (∀ id, id ∈ s.ent.raisedQ ↔ ∃ po, find? s.ent.orders id = some po ∧ po.status = stRaised) ∧
    (∀ id, id ∈ s.ent.acceptedQ ↔ ∃ po, find? s.ent.orders id = some po ∧ po.status = stAccepted) ∧
    s.ent.raisedQ.Nodup ∧ s.ent.acceptedQ.Nodup ∧
    (∀ id po, find? s.ent.orders id = some po → po.id = id ∧ id < s.ent.nextId ∧ validPoStatus po.status = true) := by
  have hi := bookInv_reachable g s h
  exact ⟨hi.rq, hi.aq, asc_nodup _ hi.rqAsc, asc_nodup _ hi.aqAsc, fun id po hf => ⟨hi.idKey id po hf, hi.fresh id po hf, hi.status id po hf⟩⟩

-- non-vacuity: concrete instances of the hypotheses
def exParams : EntParams := { denom := "nund", minAccepts := 2, decisionLimit := 30, signers := [.ok 0 false, .ok 1 false, .ok 2 true] }
def exPO : PO := { id := 1, purchaser := .ok 5 false, denom := "nund", amt := 777, status := stRaised, raiseTime := 100, completionTime := 0
                   decisions := [{ signer := .ok 0 false, decision := stAccepted, time := 101 }, { signer := .ok 1 false, decision := stAccepted, time := 102 }] }
example : EntState.tallyDecision exParams 110 exPO = some stAccepted := by decide +kernel
example : EntState.tallyDecision exParams 110 { exPO with decisions := exPO.decisions.take 1 } = none := by decide +kernel
example : EntState.tallyDecision exParams 130 { exPO with decisions := exPO.decisions.take 1 } = some stRejected := by decide +kernel
example : exParams.minAccepts ≤ exParams.signers.length ∧ exParams.minAccepts < two63 ∧ exPO.raiseTime ≤ 110 := by decide

end C03
end Mainchain
