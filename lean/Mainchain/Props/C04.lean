import Mainchain.Lemmas.EntBooks
/-
C04 — Locked eFUND books always balance.

`FineReach g (BooksQ D) s` : `s` is any state of any run from the scenario genesis `g` (all message
kinds, nesting, governance, ante effects, block hooks) along which the bank's vesting arithmetic is
sane, the order-id counter has not wrapped and governance has not changed the enterprise
denomination `D` (history assumption `BooksQ`; the last clause is the known finding C14/denom-change).
-/
namespace Mainchain
namespace C04
open AL Bank

/-- In every state of every run the enterprise escrow account's balance equals the reported total
locked eFUND (and is empty in every other denomination), which equals the sum of all per-account
locked amounts; the reported total spent equals the sum of the per-account spent amounts; all
entries are non-negative amounts of the enterprise denomination. -/
theorem c04_books_balance (g : GenCfg) (hg : GenBooksValid g) (s : State) (h : FineReach g (BooksQ g.ent.denom) s) :
    (∀ d, (s.bank.balOf Ment d : Int) = if d = g.ent.denom then s.ent.totalLocked.amt else 0) ∧
    s.ent.totalLocked.amt = sumF coinAmt s.ent.locked ∧
    s.ent.totalSpent.amt = sumF coinAmt s.ent.spent ∧
    (∀ a c, find? s.ent.locked a = some c → c.denom = g.ent.denom ∧ 0 ≤ c.amt) ∧
    (∀ a c, find? s.ent.spent a = some c → c.denom = g.ent.denom ∧ 0 ≤ c.amt) := by
  have hi := (entAll_reachable g hg s h).books
  exact ⟨hi.escrow, hi.sumL.symm, hi.sumS.symm, hi.okL, hi.okS⟩

/-- For every account, locked plus spent equals the sum of its completed purchase orders. -/
theorem c04_locked_plus_spent_eq_purchased (g : GenCfg) (hg : GenBooksValid g) (s : State)
    (h : FineReach g (BooksQ g.ent.denom) s) (a : Addr) :
    (s.ent.lockedOf a).amt + (s.ent.spentOf a).amt =
      sumF (fun po => if po.status = stCompleted ∧ po.purchaser.decode = some a then po.amt else 0) s.ent.orders :=
  (entAll_reachable g hg s h).books.perAcct a

/-- No elementary step other than an order completion (credit of exactly the order's amount) or a fee
unlock (debit of exactly the amount moved from locked to spent) changes the escrow balance: every
message of every kind — transfers aimed at the escrow, stream operations naming it, authz-wrapped
messages — fee deduction, the tally and block-time advance leave it as it was. -/
theorem c04_escrow_moves_only_by_completion_or_unlock (g : GenCfg) (hg : GenBooksValid g) (s s' : State)
    (h : FineReach g (BooksQ g.ent.denom) s) (hq : BooksQ g.ent.denom s) (hs : FineStep s s') :
    (∀ d, s'.bank.balOf Ment d = s.bank.balOf Ment d) ∨
    (∃ id po, find? s.ent.orders id = some po ∧ po.status = stAccepted ∧
      ∀ d, (s'.bank.balOf Ment d : Int) = s.bank.balOf Ment d + (if d = g.ent.denom then po.amt else 0)) ∨
    (∃ payer k, 0 < k ∧ (s'.ent.lockedOf payer).amt = (s.ent.lockedOf payer).amt - k ∧
      (s'.ent.spentOf payer).amt = (s.ent.spentOf payer).amt + k ∧
      ∀ d, (s'.bank.balOf Ment d : Int) = s.bank.balOf Ment d - (if d = g.ent.denom then k else 0)) := by
  have ha := entAll_reachable g hg s h
  rcases fineStep_books_cases hq.2.2 ha.str ha.book ha.books hs with ⟨hbal, _⟩ | ⟨id, x, po, a, _, rfl, hf, hst, _, c⟩ |
    ⟨_, payer, x, k, rfl, _, _, hk0, _, u, _⟩
  · exact Or.inl hbal
  · exact Or.inr (Or.inl ⟨id, po, hf, hst, fun d => by rw [c.bal Ment d]; simp⟩)
  · exact Or.inr (Or.inr ⟨payer, k, hk0, u.locked, u.spent, u.escrow⟩)

/-- a direct transfer to the enterprise escrow account is refused (blocked recipient) — stated for the lower-case spelling
`.ok Ment false` of its address; `send_to_blocked_rejected` says it of every spelling of every blocked address -/
theorem c04_send_to_escrow_rejected (wall : Nat) (s : State) (src : AddrTok) (coins : Coins) (s' : State) (r : Resp) :
    execMsg wall s (.bankSend src (.ok Ment false) coins) ≠ .ok (s', r) :=
  send_to_blocked_rejected rfl isBlocked_Ment

/-- the enterprise escrow is a blocked address of the application (regenerated from app.go: every
module account except gov is blocked) and only `enterprise` and `transfer` hold the Minter permission -/
theorem c04_escrow_blocked_and_minters : isBlocked Ment = true ∧ isBlocked Mstr = true ∧
    (Facts.maccPerms.filter (fun e => e.2.contains "minter")).map (·.1) = ["enterprise", "transfer"] :=
  ⟨isBlocked_Ment, isBlocked_Mstr, minters_eq⟩

/-- **Whitelist administration touches the whitelist and nothing else**: adding or removing an address - also one whose
locked eFUND has been spent down to zero - leaves every locked record, every spent record, both running totals, the
orders and both queues exactly as they were (so the three book equations of `c04_books_balance` and
`c04_locked_plus_spent_eq_purchased` cannot be disturbed by it). -/
theorem c04_whitelist_change_leaves_the_books (e e' : EntState) (action : Nat) (addrT signerT : AddrTok)
    (h : e.whitelistMsg action addrT signerT = .ok e') :
    e'.locked = e.locked ∧ e'.spent = e.spent ∧ e'.totalLocked = e.totalLocked ∧ e'.totalSpent = e.totalSpent ∧
    e'.orders = e.orders ∧ e'.raisedQ = e.raisedQ ∧ e'.acceptedQ = e.acceptedQ ∧ e'.params = e.params ∧ e'.nextId = e.nextId := by
  obtain ⟨_, _, _, _, _, rfl | rfl⟩ := EntState.whitelistMsg_ok h <;> exact ⟨rfl, rfl, rfl, rfl, rfl, rfl, rfl, rfl, rfl⟩

-- non-vacuity of the conjunct `GenBooksValid` adds to `GenBankValid` (empty enterprise escrow), checked for two denominations
def exGen : GenCfg :=
  { timeSec := 1700000000,
    accts := [{ id := 0, exists_ := true, balance := [{ denom := "nund", amt := 1000 }], vest := none }] }
example : ∀ d ∈ ["nund", "atoken"], (initState exGen).bank.balOf Ment d = 0 := by decide

end C04
end Mainchain
