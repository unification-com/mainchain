import Mainchain.Lemmas.EntBooks
import Mainchain.Lemmas.Fees
/-
C05 — Locked eFUND can be spent only as WRKChain/BEACON transaction fees.

`FineReach g (BooksQ D) s` as in C04: "every step of every run" is meant from a scenario genesis with valid bank
and empty enterprise escrow (`GenBooksValid`), along histories in which the bank's vesting arithmetic is sane, the
order-id counter has not wrapped and governance has not changed the enterprise denomination `D` (history
assumption `BooksQ`).
-/
namespace Mainchain
namespace C05
open AL Bank

/-- Over every elementary step of every run, the per-account locked and spent books change in exactly
two ways: the completion of an accepted order (purchaser's locked + the order's amount) and a fee
unlock (some payer's locked − k, spent + k, with `0 < k ≤ locked`, every other account's entries as they
were).  The statement names a transaction that carries a top-level WRKChain or BEACON message, has this
fee payer and, if its fee is valid, `k = min(fee in the enterprise denomination, locked)` — but only
existentially: that it is the transaction whose ante run takes the step is in `AnteEffect.unlock` and
`unlockForFees_spec` (Lemmas/Chain, Lemmas/EntBooks), not in this statement.  No other message type —
transfers, stream operations, authorisations, nested messages, governance — and no other ante step
moves locked eFUND. -/
theorem c05_locked_moves_only_by_fee_unlock_or_completion (g : GenCfg) (hg : GenBooksValid g) (s s' : State)
    (h : FineReach g (BooksQ g.ent.denom) s) (hq : BooksQ g.ent.denom s) (hstep : FineStep s s') :
    (s'.ent.locked = s.ent.locked ∧ s'.ent.spent = s.ent.spent) ∨
    (∃ id po a, find? s.ent.orders id = some po ∧ po.status = stAccepted ∧ po.purchaser.decode = some a ∧
      (s'.ent.lockedOf a).amt = (s.ent.lockedOf a).amt + po.amt ∧
      (∀ b, b ≠ a → find? s'.ent.locked b = find? s.ent.locked b) ∧ s'.ent.spent = s.ent.spent) ∨
    (∃ (tx : Tx) (payer : Addr) (k : Int), tx.payer = some payer ∧ (tx.hasKind .wrk || tx.hasKind .bcn) = true ∧ 0 < k ∧ k ≤ (s.ent.lockedOf payer).amt ∧
      (s'.ent.lockedOf payer).amt = (s.ent.lockedOf payer).amt - k ∧
      (s'.ent.spentOf payer).amt = (s.ent.spentOf payer).amt + k ∧
      (∀ b, b ≠ payer → find? s'.ent.locked b = find? s.ent.locked b ∧ find? s'.ent.spent b = find? s.ent.spent b) ∧
      (Coins.isValid tx.fee = true → k = min (Coins.amountOf tx.fee g.ent.denom) (s.ent.lockedOf payer).amt)) := by
  have ha := entAll_reachable g hg s h
  rcases fineStep_books_cases hq.2.2 ha.str ha.book ha.books hstep with ⟨_, _, e1, e2, _⟩ |
    ⟨id, x, po, a, hx, rfl, hf, hst, hd, _⟩ | ⟨tx, payer, x, k, rfl, hp, hk, hk0, hkl, u, hv⟩
  · exact Or.inl ⟨e1, e2⟩
  · obtain ⟨_, h1, _, h2, h3⟩ := completeOne_credit hx hf hd
    exact Or.inr (Or.inl ⟨id, po, a, hf, hst, hd, h1, h2, h3⟩)
  · exact Or.inr (Or.inr ⟨tx, payer, k, hp, hk, hk0, hkl, u.locked, u.spent, u.others, hv⟩)

/-- In the composed ante chain of the repository (decorator order regenerated on every run) the unlock
decorator runs after the WRKChain/BEACON fee decorators, which reject invalid fee coin sets: every transaction
with a top-level WRKChain or BEACON message that passes the ante chain has a valid fee.  That is the case in which
the unlock of a fee takes exactly `min(fee in the enterprise denomination, locked)` (`unlockForFees_spec` in
Lemmas/EntBooks); the statement here is the validity of the fee alone. -/
theorem c05_fee_of_admitted_module_tx_is_valid (mode : Mode) (s s' : State) (tx : Tx)
    (hk : (tx.hasKind .wrk || tx.hasKind .bcn) = true) (h : ante Facts.anteOrder mode s tx = .ok s') :
    Coins.isValid tx.fee = true := by
  have key : ∀ k, tx.hasKind k = true → Coins.isValid tx.fee = true := by
    intro k hk'
    have := (ante_runs_fee_decorator hk' h).2.1
    simp only [checkPayerFunds, bind_eq_ok, require_eq_ok] at this
    obtain ⟨_, _, _, _, _, hv, _⟩ := this
    exact hv
  rcases Bool.or_eq_true_iff.mp hk with h1 | h1
  · exact key .wrk h1
  · exact key .bcn h1

/-- A transaction that is rejected before execution (stateless validation or any ante decorator fails —
bad signature, wrong sequence, insufficient fee, …) changes nothing at all: the unlock performed by an
earlier decorator is discarded with the rest of the ante state.  The same holds for CheckTx when an ante
decorator fails (the stateless-validation clause is stated for DeliverTx only). -/
theorem c05_rejected_tx_changes_nothing (wall : Nat) (s : State) (tx : Tx) :
    (∀ e, ante Facts.anteOrder .deliver s tx = .error e → (deliverTx Facts.anteOrder wall s tx).1 = s) ∧
    (∀ e, Msg.validateBasicList s tx.msgs = .error e → (deliverTx Facts.anteOrder wall s tx).1 = s) ∧
    (∀ e, ante Facts.anteOrder .check s tx = .error e → (checkTx Facts.anteOrder s tx).1 = s) := by
  -- the checks before execution fail as a whole when one of them does, and then the run returns the state it was given
  have pre : ∀ mode e, ante Facts.anteOrder mode s tx = .error e ∨ Msg.validateBasicList s tx.msgs = .error e →
      ∃ e', preExec Facts.anteOrder mode s tx = .error e' := by
    intro mode e he
    cases h : preExec Facts.anteOrder mode s tx with
    | error e' => exact ⟨e', rfl⟩
    | ok s1 =>
      obtain ⟨_, hv, ha⟩ := (preExec_iff ..).mp h
      exact he.elim (fun he => absurd (he.symm.trans ha) nofun) (fun he => absurd (he.symm.trans hv) nofun)
  refine ⟨fun e he => ?_, fun e he => ?_, fun e he => ?_⟩
  · obtain ⟨_, h⟩ := pre .deliver e (.inl he)
    rw [deliverTx_eq, h]
  · obtain ⟨_, h⟩ := pre .deliver e (.inr he)
    rw [deliverTx_eq, h]
  · obtain ⟨_, h⟩ := pre .check e (.inl he)
    rw [checkTx_eq, h]

/-- Completing a purchase order leaves every bank balance of the purchaser exactly as it was (the minted
coins pass through the purchaser's account and are delegated to the escrow in the same step), whatever
the account type.  The statement is about balances, not `spendable`: that for a base account the spendable
balance is the balance, and so does not rise, is not stated.  (`…_partial`: the property speaks of the
spendable balance, and for vesting accounts that is FALSE — see below.) -/
theorem c05_completion_keeps_purchaser_balances_partial (g : GenCfg) (hg : GenBooksValid g) (s : State) (x : EB) (id : Nat)
    (h : FineReach g (BooksQ g.ent.denom) s)
    (hx : EB.completeOne { ent := s.ent, bank := s.bank } s.nowSec isBlocked id = .ok x) :
    ∃ po a, find? s.ent.orders id = some po ∧ po.purchaser.decode = some a ∧ ∀ d, x.bank.balOf a d = s.bank.balOf a d := by
  have ha := entAll_reachable g hg s h
  obtain ⟨po, a, hf, _, hd, c⟩ := completeOne_spec ha.books ha.book ha.str hx
  refine ⟨po, a, hf, hd, fun d => ?_⟩
  have := c.bal a d
  simp only [c.notEscrow, false_and, if_false] at this
  omega

/-! ### the full statement fails for two account configurations (known findings) -/

def wGen : GenCfg :=
  { timeSec := 1700000000,
    accts := [{ id := 0, exists_ := true, balance := [{ denom := "nund", amt := 1000000 }], vest := none },
              { id := 1, exists_ := true, balance := [{ denom := "nund", amt := 1000000 }],
                vest := some { orig := [{ denom := "nund", amt := 1000000 }], endTime := 2000000000 } },
              { id := 2, exists_ := true, balance := [{ denom := "nund", amt := 1000000 }], vest := none }],
    ent := { denom := "nund", minAccepts := 1, decisionLimit := 3000, signers := [.ok 0 false] },
    entWl := [1, 2],
    wrk := { denom := "nund", feeReg := 24, feeRec := 2, feeBuy := 2, defLimit := 3, maxLimit := 6 },
    bcn := { denom := "nund", feeReg := 24, feeRec := 2, feeBuy := 2, defLimit := 3, maxLimit := 6 } }

def txOf (signer : Addr) (granter : Option Addr) (fee : Coins) (m : Msg) : Tx :=
  { signers := [signer], granter := granter, fee := fee, sig := .ok, msgs := [m] }

def beginAt (s : State) (sec : Int) : State :=
  match beginBlock Facts.beginBlockSteps { s with time := sec * nsPerSec } with
  | .ok s' => s'
  | .error _ => s

/-- purchaser `p` raises 500000, signer 0 accepts; two more blocks: tallied, then completed -/
def afterOrder (p : Addr) : State × State :=
  let s1 := beginAt (initState wGen) 1700000005
  let s2 := (deliverTx Facts.anteOrder 0 s1 (txOf p none [] (.entRaise (.ok p false) 500000 "nund"))).1
  let s3 := (deliverTx Facts.anteOrder 0 s2 (txOf 0 none [] (.entDecide 1 stAccepted (.ok 0 false)))).1
  let s4 := beginAt s3 1700000010
  (s4, beginAt s4 1700000015)

/-- NEGATION of "completing a purchase order never increases the purchaser's spendable balance":
for a delayed-vesting purchaser whose whole balance is still vesting, the spendable balance is empty
before the completing block and 500000nund after it (the delegation to the escrow is booked against
the vesting coins first). -/
theorem c05_vesting_purchaser_spendable_rises :
    ((afterOrder 1).1.bank.spendable 1700000010 1 = [] ∧ (afterOrder 1).1.ent.lockedOf 1 = { denom := "nund", amt := 0 }) ∧
    ((afterOrder 1).2.bank.spendable 1700000015 1 = [{ denom := "nund", amt := 500000 }] ∧
      (afterOrder 1).2.ent.lockedOf 1 = { denom := "nund", amt := 500000 }) := by
  decide +kernel

/-- NEGATION of "locked eFUND leaves only as the fee of the transaction": with a fee granter the
unlocked amount stays with the payer as liquid coins while the granter pays the fee. -/
theorem c05_fee_granter_pays_while_payer_keeps_unlocked :
    let s := (afterOrder 2).2
    let s1 := (deliverTx Facts.anteOrder 0 s (txOf 0 none [] (.feegrantGrant (.ok 0 false) (.ok 2 false)))).1
    let s2 := (deliverTx Facts.anteOrder 0 s1 (txOf 2 (some 0) [{ denom := "nund", amt := 24 }]
      (.regReg .wrk "mon" "name" "gen" "typ" (.ok 2 false)))).1
    s1.bank.balOf 2 "nund" = 1000000 ∧ s1.ent.lockedOf 2 = { denom := "nund", amt := 500000 } ∧
    s2.bank.balOf 2 "nund" = 1000024 ∧ s2.ent.lockedOf 2 = { denom := "nund", amt := 499976 } ∧
    s2.ent.spentOf 2 = { denom := "nund", amt := 24 } ∧ s2.bank.balOf 0 "nund" = 999976 := by
  decide +kernel

end C05
end Mainchain
