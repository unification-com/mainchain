import Mainchain.Lemmas.Fees
/-
C06 — WRKChain/BEACON operations are admitted only with the exact parameterised fee.

`checkTx Facts.anteOrder s tx` is mempool admission: the composed ante chain (decorator order
regenerated from ante/ante.go on every run) in check mode on the check state `s`.
-/
namespace Mainchain
namespace C06
open AL

/-- **Exact fee.**  A transaction with a top-level operation of module `k` is admitted by CheckTx only if
the amount it offers in that module's fee denomination equals exactly the sum, over its top-level
operations of module `k`, of the current registration, record and per-slot storage fees — whatever
other fee denominations accompany it and in whatever order the messages appear.  The state `s` is arbitrary;
assumed of it and of the transaction: a per-slot fee of at least 1 (`hbuy`, as parameter validation enforces)
and the `uint64` ranges of the protobuf fields — the three fee parameters (`hp`) and the slot count of every
top-level storage purchase (`hm`) below 2^64. -/
theorem c06_admitted_pays_exact_sum (k : RegKind) (s : State) (tx : Tx) (hk : tx.hasKind k = true)
    (hbuy : 1 ≤ (s.reg k).params.feeBuy) (hp : (s.reg k).params.U64) (hm : ∀ m ∈ tx.msgs, m.U64)
    (h : (checkTx Facts.anteOrder s tx).2.outcome = .ok) :
    Coins.amountOf tx.fee (s.reg k).params.denom = feeSum (s.reg k).params k tx.msgs := by
  obtain ⟨s1, h1⟩ := checkTx_ok h
  exact checkFees_exact hbuy hp hm ((ante_runs_fee_decorator hk h1).1 (by decide))

/-- **… also when the mempool is re-validated.**  After every commit CometBFT runs CheckTx of type Recheck on the
pending transactions; the fee decorators run then too, against the parameters in force *now*: a pending transaction
whose fee no longer equals the current sum (governance changed a fee in between) is dropped.  (Premises `hbuy`,
`hp`, `hm` as in `c06_admitted_pays_exact_sum`.) -/
theorem c06_recheck_admitted_pays_exact_sum (k : RegKind) (s : State) (tx : Tx) (hk : tx.hasKind k = true)
    (hbuy : 1 ≤ (s.reg k).params.feeBuy) (hp : (s.reg k).params.U64) (hm : ∀ m ∈ tx.msgs, m.U64)
    (h : (recheckTx Facts.anteOrder s tx).2.outcome = .ok) :
    Coins.amountOf tx.fee (s.reg k).params.denom = feeSum (s.reg k).params k tx.msgs := by
  obtain ⟨s1, h1⟩ := recheckTx_ok h
  exact checkFees_exact hbuy hp hm ((ante_runs_fee_decorator hk h1).1 (by decide))

/-- **Affordability.**  … and only if its fee payer can cover that amount from liquid plus locked funds
(total and spendable balances, each together with the locked eFUND). -/
theorem c06_payer_can_cover (k : RegKind) (s : State) (tx : Tx) (hk : tx.hasKind k = true)
    (h : (checkTx Facts.anteOrder s tx).2.outcome = .ok) :
    ∃ payer, tx.payer = some payer ∧ s.bank.hasAccount payer = true ∧
      (Coins.safeSub (Coins.add (s.bank.allBalances payer) (Coins.ofCoin (s.ent.lockedOf payer)))
        [{ denom := (s.reg k).params.denom, amt := Coins.amountOf tx.fee (s.reg k).params.denom }]).2 = false ∧
      (Coins.safeSub (Coins.add (s.bank.spendable s.nowSec payer) (Coins.ofCoin (s.ent.lockedOf payer)))
        [{ denom := (s.reg k).params.denom, amt := Coins.amountOf tx.fee (s.reg k).params.denom }]).2 = false := by
  obtain ⟨s1, h1⟩ := checkTx_ok h
  have h2 := (ante_runs_fee_decorator hk h1).2.1
  simp only [checkPayerFunds, bind_eq_ok, require_eq_ok, Bool.not_eq_true', Tx.payerM_iff] at h2
  obtain ⟨payer, hp, _, hacc, _, _, _, _, _, c1, c2⟩ := h2
  exact ⟨payer, hp, hacc, c1, c2⟩

/-- all WRKChain/BEACON operations a transaction would execute, nested ones included -/
def allOps (k : RegKind) : List Msg → List Msg
  | [] => []
  | .authzExec _ inner :: rest => allOps k inner ++ allOps k rest
  | m :: rest => (if m.isOfKind k then [m] else []) ++ allOps k rest

theorem opFee_zero (p : RegParams) (k : RegKind) (m : Msg) (h : m.isOfKind k = false) : opFee p k m = 0 := by
  cases m with
  | regReg k' | regRec k' | regBuy k' => cases k' <;> cases k <;> first | rfl | cases h
  | _ => rfl

theorem feeSum_filter (p : RegParams) (k : RegKind) (msgs : List Msg) :
    feeSum p k (msgs.filter (Msg.isOfKind k)) = feeSum p k msgs := by
  induction msgs with
  | nil => rfl
  | cons m ms ih =>
    simp only [feeSum, List.map_cons, List.sum_cons] at ih ⊢
    by_cases hm : m.isOfKind k = true
    · simp only [List.filter_cons, hm, if_true, List.map_cons, List.sum_cons, ih]
    · simp only [List.filter_cons, hm, Bool.false_eq_true, if_false, opFee_zero p k m (Bool.eq_false_iff.mpr hm), ih]
      exact (Int.zero_add _).symm

/-- a transaction whose WRKChain/BEACON operations all sit at the top level and belong to one module -/
def Plain (tx : Tx) : Prop :=
  (∀ k, allOps k tx.msgs = tx.msgs.filter (Msg.isOfKind k)) ∧ ¬ (tx.hasKind .wrk = true ∧ tx.hasKind .bcn = true)

/-- **The full statement, for plain transactions** (`…_partial`: the statement quantifies over every
message combination and nesting; for transactions that mix both modules or wrap operations in
authorisation-exec messages it is FALSE of the code — see the two witnesses below, recorded as known
findings).  For a plain transaction admitted by CheckTx the amount offered in the module's fee
denomination equals exactly the sum over ALL WRKChain/BEACON operations the transaction will execute
(premises `hbuy`, `hp`, `hm` as in `c06_admitted_pays_exact_sum`). -/
theorem c06_exact_fee_partial (k : RegKind) (s : State) (tx : Tx) (hplain : Plain tx) (hk : tx.hasKind k = true)
    (hbuy : 1 ≤ (s.reg k).params.feeBuy) (hp : (s.reg k).params.U64) (hm : ∀ m ∈ tx.msgs, m.U64)
    (h : (checkTx Facts.anteOrder s tx).2.outcome = .ok) :
    Coins.amountOf tx.fee (s.reg k).params.denom = feeSum (s.reg k).params k (allOps k tx.msgs) ∧
    (∀ k', k' ≠ k → allOps k' tx.msgs = []) := by
  refine ⟨?_, ?_⟩
  · rw [hplain.1 k, feeSum_filter]; exact c06_admitted_pays_exact_sum k s tx hk hbuy hp hm h
  · intro k' hne
    rw [hplain.1 k']
    have hnot : tx.hasKind k' = false := Bool.eq_false_iff.mpr fun hk' => by
      cases k <;> cases k'
      · exact hne rfl
      · exact hplain.2 ⟨hk, hk'⟩
      · exact hplain.2 ⟨hk', hk⟩
      · exact hne rfl
    simp only [Tx.hasKind, List.any_eq_false] at hnot
    exact List.filter_eq_nil_iff.mpr hnot

/-! ### the two gaps (known findings), each with a concrete admitted transaction -/

def wGen : GenCfg :=
  { timeSec := 1700000000,
    accts := [{ id := 0, exists_ := true, balance := [{ denom := "nund", amt := 1000000 }], vest := none }],
    ent := { denom := "nund", minAccepts := 1, decisionLimit := 30, signers := [.ok 0 false] },
    wrk := { denom := "nund", feeReg := 24, feeRec := 2, feeBuy := 2, defLimit := 3, maxLimit := 6 },
    bcn := { denom := "nund", feeReg := 24, feeRec := 2, feeBuy := 2, defLimit := 3, maxLimit := 6 } }

def wMixed : Tx :=
  { signers := [0], granter := none, fee := [{ denom := "nund", amt := 24 }], sig := .ok,
    msgs := [.regReg .wrk "mon" "name" "gen" "typ" (.ok 0 false), .regReg .bcn "mon" "name" "" "" (.ok 0 false)] }

def wNested : Tx :=
  { signers := [0], granter := none, fee := [], sig := .ok,
    msgs := [.authzExec (.ok 0 false) [.regReg .wrk "mon" "name" "gen" "typ" (.ok 0 false)]] }

/-- NEGATION of the full statement (1): a transaction registering a WRKChain and a BEACON is admitted
offering one registration fee — each module's decorator compares the fee with its own module's sum. -/
theorem c06_mixed_modules_admitted_with_one_fee :
    (checkTx Facts.anteOrder (initState wGen) wMixed).2.outcome = .ok ∧
    Coins.amountOf wMixed.fee "nund" = 24 ∧
    feeSum wGen.wrk .wrk (allOps .wrk wMixed.msgs) + feeSum wGen.bcn .bcn (allOps .bcn wMixed.msgs) = 48 := by
  refine ⟨by decide +kernel, by decide +kernel, ?_⟩
  simp [wMixed, wGen, allOps, feeSum, opFee, Msg.isOfKind, Msg.isWrk, Msg.isBcn]

/-- NEGATION of the full statement (2): a WRKChain registration wrapped in an authorisation-exec
message is admitted with no fee at all — module transactions are detected by top-level message type. -/
theorem c06_nested_operation_admitted_free :
    (checkTx Facts.anteOrder (initState wGen) wNested).2.outcome = .ok ∧
    wNested.fee = [] ∧ feeSum wGen.wrk .wrk (allOps .wrk wNested.msgs) = 24 := by
  refine ⟨by decide +kernel, rfl, ?_⟩
  simp [wNested, wGen, allOps, feeSum, opFee, Msg.isOfKind, Msg.isWrk]

-- non-vacuity of the positive theorem: an exactly paid plain registration is admitted, an under-paid one
-- accompanied by another denomination is not (the repaired defect)
example : (checkTx Facts.anteOrder (initState wGen)
    { signers := [0], granter := none, fee := [{ denom := "nund", amt := 24 }], sig := .ok,
      msgs := [.regReg .wrk "mon" "name" "gen" "typ" (.ok 0 false)] }).2.outcome = .ok := by decide +kernel
example : (checkTx Facts.anteOrder (initState wGen)
    { signers := [0], granter := none, fee := [{ denom := "btoken", amt := 1 }, { denom := "nund", amt := 5 }], sig := .ok,
      msgs := [.regReg .wrk "mon" "name" "gen" "typ" (.ok 0 false)] }).2.outcome = .err := by decide +kernel

end C06
end Mainchain
