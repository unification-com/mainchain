import Mainchain.Lemmas.RegistryReach
import Mainchain.Model.Query
/-
C07 — Recorded WRKChain hashes and BEACON timestamps are append-only and tamper-proof.

`FineReach g RegQ s` : `s` is any state of any run from genesis `g` (transactions of every kind,
nested authz, governance, block hooks) along which, in both modules, the id counter and every registration's
record count and newest key stay below 2^64 − 1 (history assumption `RegQ`; the newest key is a counter for a
BEACON, the height the caller submits for a WRKChain).
`FinePathQ RegQ s s'` : `s'` is any later state of such a run.
-/
namespace Mainchain
namespace C07
open AL

/-- Once accepted, a record is returned unchanged by every later query until it is pruned; nobody
can alter or replace it: in every later state it is the same record or absent.  (Both modules.  That an absent
record stays absent is `c07_no_backfill`, stated only for WRKChain heights up to the last recorded one.) -/
theorem c07_records_immutable (g : GenCfg) (hg : GenRegValid g) (s s' : State)
    (hs : FineReach g RegQ s) (hp : FinePathQ RegQ s s') :
    (∀ id k r, find? s.wrk.recs (id, k) = some r →
        find? s'.wrk.recs (id, k) = some r ∨ find? s'.wrk.recs (id, k) = none) ∧
    (∀ id k r, find? s.bcn.recs (id, k) = some r →
        find? s'.bcn.recs (id, k) = some r ∨ find? s'.bcn.recs (id, k) = none) := by
  have key : ∀ (kd : RegKind) id k r, find? (s.reg kd).recs (id, k) = some r →
      find? (s'.reg kd).recs (id, k) = some r ∨ find? (s'.reg kd).recs (id, k) = none := fun kd id k r hr => by
    obtain ⟨m, hm, _, hk, _⟩ := (regAll_of_regQ g hg s hs kd).1.reg.recsBounded id k r hr
    exact ((registries_stable g hg s s' hs hp kd).2 id k m hm hk).imp_left (·.trans hr)
  exact ⟨key .wrk, key .bcn⟩

/-- a WRKChain height that is absent at or below the last recorded height stays absent: pruned or skipped
heights can never be filled in later -/
theorem c07_no_backfill (g : GenCfg) (hg : GenRegValid g) (s s' : State)
    (hs : FineReach g RegQ s) (hp : FinePathQ RegQ s s') (id k : Nat) (m : RegMeta)
    (hm : find? s.wrk.regs id = some m) (hk : k ≤ m.last) (habs : find? s.wrk.recs (id, k) = none) :
    find? s'.wrk.recs (id, k) = none :=
  ((registries_stable g hg s s' hs hp .wrk).2 id k m hm hk).elim (·.trans habs) (fun e => e)

/-- either module: the record is stored under a key above `last`, verbatim, and that key becomes the new `last` -/
theorem record_result (s : RegState) (now wall id key : Nat) (rc : Rec) (o : AddrTok) (s' : RegState) (k : Nat)
    (hi : RegAll s) (hb : RegBounded s) (h : s.record now wall id key rc o = .ok (s', k)) :
    ∃ m m' rc', find? s.regs id = some m ∧ m.last < k ∧ find? s'.regs id = some m' ∧ m'.last = k ∧
      find? s'.recs (id, k) = some rc' ∧ s.Stores now wall key rc m k rc' := by
  obtain ⟨m, rc', drop, n, l, hm, rfl, hgt, hd, hk, rfl⟩ := record_stored hi hb h
  refine ⟨m, _, rc', hm, hgt, find_insert_eq _ _ _, rfl, ?_, hk⟩
  -- the new key is not the pruned one, which is at most `last`
  rw [find_stored_recs hi.reg.sortedRecs, if_neg, if_pos rfl]
  cases drop with
  | none => exact nofun
  | some d => exact fun e => Nat.not_le.mpr hgt ((Prod.mk.inj (Option.some.inj e)).2 ▸ hd d rfl)

/-- A WRKChain accepts a record only for a height strictly above its last recorded height; the
record is stored verbatim (hashes as submitted, height, block time) and becomes the new last. -/
theorem c07_wrk_record_accepts_only_higher (g : GenCfg) (hg : GenRegValid g) (s : State) (hs : FineReach g RegQ s)
    (hq : RegQ s) (now wall id key : Nat) (rc : Rec) (o : AddrTok) (w' : RegState) (k : Nat)
    (h : s.wrk.record now wall id key rc o = .ok (w', k)) :
    ∃ m m', find? s.wrk.regs id = some m ∧ m.last < key ∧ k = key ∧
      find? w'.regs id = some m' ∧ m'.last = key ∧
      find? w'.recs (id, key) = some { rc with key := key, subTime := now } := by
  obtain ⟨hwi, hkd⟩ := wrkAll_reachable g hg s hs
  obtain ⟨m, m', rc', hm, hgt, hm', hl, hr, hk⟩ := record_result s.wrk now wall id key rc o w' k hwi hq.1 h
  obtain ⟨rfl, rfl⟩ := hk.wrk hkd
  exact ⟨m, m', hm, hgt, rfl, hm', hl, hr⟩

/-- BEACON timestamp identifiers are assigned consecutively (previous id + 1, the first one is 1)
in submission order, and the timestamp is stored verbatim (hash and submit time). -/
theorem c07_bcn_ids_consecutive (g : GenCfg) (hg : GenRegValid g) (s : State) (hs : FineReach g RegQ s)
    (hq : RegQ s) (now wall id key : Nat) (rc : Rec) (o : AddrTok) (b' : RegState) (k : Nat)
    (h : s.bcn.record now wall id key rc o = .ok (b', k)) :
    ∃ m m', find? s.bcn.regs id = some m ∧ k = m.last + 1 ∧ find? b'.regs id = some m' ∧ m'.last = k ∧
      find? b'.recs (id, k) = some { key := k, h0 := rc.h0, subTime := if rc.subTime = 0 then wall else rc.subTime } := by
  obtain ⟨hbi, hkd⟩ := bcnAll_reachable g hg s hs
  obtain ⟨m, m', rc', hm, _, hm', hl, hr, hk⟩ := record_result s.bcn now wall id key rc o b' k hbi hq.2 h
  obtain ⟨rfl, rfl, _⟩ := hk.bcn hkd
  exact ⟨m, m', hm, rfl, hm', hl, hr⟩

/-- a freshly registered BEACON starts at last id 0, so its first timestamp gets id 1 -/
theorem c07_bcn_first_id_is_one (s : RegState) (now : Nat) (mk nm gn ty : String) (o : AddrTok) (s' : RegState) (id : Nat)
    (h : s.register now mk nm gn ty o = .ok (s', id)) :
    ∃ m, find? s'.regs id = some m ∧ m.last = 0 ∧ m.num = 0 := by
  obtain ⟨oa, _, rfl, rfl⟩ := RegState.register_ok h
  exact ⟨_, find_insert_eq _ _ _, rfl, rfl⟩

/-- rejected submissions change nothing: a failing message yields no new state at all, and a failing
transaction leaves both registries exactly as they were (the ante chain does not touch them) -/
theorem c07_rejected_tx_changes_nothing (wall : Nat) (s : State) (tx : Tx)
    (h : (deliverTx Facts.anteOrder wall s tx).2.outcome ≠ .ok) :
    (deliverTx Facts.anteOrder wall s tx).1.wrk = s.wrk ∧ (deliverTx Facts.anteOrder wall s tx).1.bcn = s.bcn := by
  have hante : ∀ s1, ante Facts.anteOrder .deliver s tx = .ok s1 → s1.wrk = s.wrk ∧ s1.bcn = s.bcn := by
    intro s1 h1
    exact ante_rel (fun a b => b.wrk = a.wrk ∧ b.bcn = a.bcn) (fun _ => ⟨rfl, rfl⟩)
      (fun a b c h1 h2 => ⟨h2.1.trans h1.1, h2.2.trans h1.2⟩)
      (fun a b he => by cases he with
        | none hs => subst hs; exact ⟨rfl, rfl⟩
        | unlock _ _ _ _ _ _ hs => subst hs; exact ⟨rfl, rfl⟩
        | deduct _ _ _ _ _ _ hs => subst hs; exact ⟨rfl, rfl⟩) h1
  rw [deliverTx_eq] at h ⊢
  cases h0 : preExec Facts.anteOrder .deliver s tx with
  | error _ => exact ⟨rfl, rfl⟩
  | ok s1 =>
    rw [h0] at h
    dsimp only at h ⊢
    cases h2 : runMsgs wall s1 tx.msgs with
    | error _ => exact hante s1 (preExec_ante h0)
    | ok x => rw [h2] at h; exact absurd rfl h

-- non-vacuity: a concrete accepted record (first timestamp of a fresh BEACON gets id 1)
def exParams : RegParams := { denom := "nund", feeReg := 1, feeRec := 1, feeBuy := 1, defLimit := 2, maxLimit := 3 }
def exMeta : RegMeta :=
  { id := 1, owner := .ok 0 false, moniker := "m", name := "n", genesis := "", type := "", regTime := 5, last := 0, num := 0, lowest := 0 }
def exState : RegState := { kind := .bcn, params := exParams, nextId := 2, regs := [(1, exMeta)], limits := [(1, 2)] }
example : (exState.record 10 0 1 0 { key := 0, h0 := "abc", subTime := 77 } (.ok 0 false)).toOption.map (·.2) = some 1 := by
  decide

/-- the byte limit of every submitted hash in the model is the one the source compares with — regenerated from
`ValidateBasic` (msgs.go) and the message servers of both modules on every run -/
theorem c07_limits_from_source :
    ["wrkchain.msgs.BlockHash.>", "wrkchain.msgs.ParentHash.>", "wrkchain.msgs.Hash1.>", "wrkchain.msgs.Hash2.>", "wrkchain.msgs.Hash3.>",
     "beacon.msgs.Hash.>"].all (fun k => decide (AL.find? Facts.limits k = some maxHashLen)) = true ∧
    -- the message servers repeat the bound of `ValidateBasic`; where they state it literally it is the same number (a helper or
    -- a constant there is not looked into: the `ValidateBasic` bound above is the one every transaction meets first)
    ["wrkchain.msg_server.BlockHash.>", "wrkchain.msg_server.ParentHash.>", "wrkchain.msg_server.Hash1.>", "wrkchain.msg_server.Hash2.>",
     "wrkchain.msg_server.Hash3.>", "beacon.msg_server.Hash.>"].all
      (fun k => decide (AL.find? Facts.limits k = none ∨ AL.find? Facts.limits k = some maxHashLen)) = true := by
  simp [Facts.limits, AL.find_cons_self, AL.find_cons_ne, maxHashLen]

/-- **The query returns what is stored.**  In every state of every run the point query for a record (`WrkChainBlock`,
`BeaconTimestamp`) answers with exactly the stored record — whatever heights or identifiers were recorded before or after
it, however far apart — and answers "not found" exactly when no such record is held.  (Stated for identifiers
other than 0, `h0`: the query refuses identifier 0.) -/
theorem c07_query_returns_the_stored_record (g : GenCfg) (hg : GenRegValid g) (s : State) (hs : FineReach g RegQ s)
    (id k : Nat) (h0 : id ≠ 0) :
    (∀ rc, find? s.wrk.recs (id, k) = some rc → ∃ m, Query.regRecord s.wrk id k = some (m, rc)) ∧
    (find? s.wrk.recs (id, k) = none → Query.regRecord s.wrk id k = none) ∧
    (∀ rc, find? s.bcn.recs (id, k) = some rc → ∃ m, Query.regRecord s.bcn id k = some (m, rc)) ∧
    (find? s.bcn.recs (id, k) = none → Query.regRecord s.bcn id k = none) := by
  have key : ∀ (r : RegState), RegInv r →
      (∀ rc, find? r.recs (id, k) = some rc → ∃ m, Query.regRecord r id k = some (m, rc)) ∧
      (find? r.recs (id, k) = none → Query.regRecord r id k = none) := by
    intro r hi
    constructor
    · intro rc hr
      obtain ⟨m, hm, hk, _⟩ := hi.recsBounded id k rc hr
      have hne : ¬ (id = 0 ∨ k = 0) := fun h => h.elim h0 (Nat.ne_of_gt hk)
      exact ⟨m, by rw [Query.regRecord, if_neg hne, hm, hr]⟩
    · intro hr
      rw [Query.regRecord, hr]
      split
      · rfl
      · cases find? r.regs id <;> rfl
  have hw := key _ (wrkAll_reachable g hg s hs).1.reg
  have hb := key _ (bcnAll_reachable g hg s hs).1.reg
  exact ⟨hw.1, hw.2, hb.1, hb.2⟩

end C07
end Mainchain
