import Mainchain.Lemmas.RegistryReach
/-
C08 — In-state retention keeps exactly the newest records within the bought limit.

Reading (DESIGN.md §8): pruned records cannot come back, so "exactly the most recent
min(total, limit)" is the dynamic statement: the retained set is always the newest `n` records,
`n ≤ limit`, each accepted record makes `n' = min(n+1, limit)` by pruning exactly the oldest one
when full, purchases leave `n` unchanged.

`FineReach g RegQ s` with `GenRegValid g` : `s` is any state of any run from a genesis `g` whose
registry parameters validate (transactions of every kind, nested authz, governance, block hooks) in
which no 64-bit counter of the two modules has reached 2^64 − 1 (history assumption `RegQ`); "every
state of every run" below means these.
-/
namespace Mainchain
namespace C08
open AL

/-- BEACON: in every state of every run the retained timestamps of a beacon are exactly the
contiguous newest ids `first … last`, their number is the reported `NumInState`, it never exceeds
the in-state limit, and the reported counters are what can actually be queried. -/
theorem c08_bcn_retained_is_newest (g : GenCfg) (hg : GenRegValid g) (s : State) (hs : FineReach g RegQ s)
    (id : Nat) (m : RegMeta) (hm : find? s.bcn.regs id = some m) :
    (∀ k, (find? s.bcn.recs (id, k)).isSome ↔ (0 < m.num ∧ m.lowest ≤ k ∧ k ≤ m.last)) ∧
    (0 < m.num → m.lowest + m.num = m.last + 1) ∧
    (m.num = 0 → m.lowest = 0 ∧ m.last = 0) ∧
    m.num ≤ (s.bcn.limitOf id).1 := by
  obtain ⟨hbi, hkd⟩ := bcnAll_reachable g hg s hs
  have hc := hbi.bcnCounters hkd
  exact ⟨fun k => hc.present id m k hm, fun h => (hc.range id m hm h).2, hc.empty id m hm, hc.withinLimit id m hm⟩

/-- BEACON: an accepted timestamp prunes the oldest retained one (it is gone and `lowest` moves up by
one), and only when the limit is reached — below the limit every other record is as before:
`n' = min (n + 1) limit`. -/
theorem c08_bcn_prune_one_at_a_time (g : GenCfg) (hg : GenRegValid g) (s : State) (hs : FineReach g RegQ s)
    (hq : RegQ s) (now wall id key : Nat) (rc : Rec) (o : AddrTok) (b' : RegState) (k : Nat)
    (h : s.bcn.record now wall id key rc o = .ok (b', k)) :
    ∃ m m', find? s.bcn.regs id = some m ∧ find? b'.regs id = some m' ∧
      m'.num = min (m.num + 1) (s.bcn.limitOf id).1 ∧
      (m.num = (s.bcn.limitOf id).1 → find? b'.recs (id, m.lowest) = none ∧ m'.lowest = m.lowest + 1) ∧
      (m.num < (s.bcn.limitOf id).1 → ∀ k', (id, k') ≠ (id, k) → find? b'.recs (id, k') = find? s.bcn.recs (id, k')) := by
  obtain ⟨hbi, hkd⟩ := bcnAll_reachable g hg s hs
  obtain ⟨m, rc', hm, rfl, _, _, hk, hshape⟩ := record_shape hbi hq.2 h
  obtain ⟨rfl, _⟩ := hk.bcn hkd
  rcases hshape with ⟨hfull, hlow, rfl⟩ | ⟨hroom, rfl⟩
  · refine ⟨m, _, hm, find_insert_eq _ _ _, by rw [← hfull]; exact (Nat.min_eq_right (Nat.le_succ _)).symm, fun _ => ⟨?_, ?_⟩,
      fun hlt => absurd hfull (Nat.ne_of_lt hlt)⟩
    · rw [find_stored_recs hbi.reg.sortedRecs]; exact if_pos rfl
    · exact hbi.bcn_next_lowest hkd hm hlow
  · refine ⟨m, _, hm, find_insert_eq _ _ _, (Nat.min_eq_left hroom).symm,
      fun hfull => absurd hroom (hfull ▸ Nat.not_succ_le_self _), fun _ k' hne => ?_⟩
    rw [find_stored_recs hbi.reg.sortedRecs, if_neg nofun, if_neg (Ne.symm hne)]

/-- WRKChain: in every state of every run the retained heights are strictly increasing in store
order, `NumBlocks` is their number, `LowestHeight` is the smallest retained height (0 when none),
every retained height is at most `Lastblock`, and the number never exceeds the in-state limit. -/
theorem c08_wrk_counters_match_store (g : GenCfg) (hg : GenRegValid g) (s : State) (hs : FineReach g RegQ s)
    (id : Nat) (m : RegMeta) (hm : find? s.wrk.regs id = some m) :
    (keysOf s.wrk.recs id).Pairwise (· < ·) ∧
    m.num = (keysOf s.wrk.recs id).length ∧
    m.lowest = (keysOf s.wrk.recs id).head?.getD 0 ∧
    (∀ k ∈ keysOf s.wrk.recs id, 1 ≤ k ∧ k ≤ m.last) ∧
    m.num ≤ (s.wrk.limitOf id).1 := by
  have hwi := (wrkAll_reachable g hg s hs).1
  exact ⟨hwi.cnt.sorted id, hwi.cnt.num id m hm, hwi.cnt.lowest id m hm, hwi.reg.keys_le_last hm,
    hwi.cnt.withinLimit id m hm⟩

/-- WRKChain: an accepted block record appends the new height and, when the limit is reached, drops
exactly the oldest retained height (the head of the retained list); below the limit it drops none. -/
theorem c08_wrk_prune_one_at_a_time (g : GenCfg) (hg : GenRegValid g) (s : State) (hs : FineReach g RegQ s)
    (hq : RegQ s) (now wall id key : Nat) (rc : Rec) (o : AddrTok) (w' : RegState) (k : Nat)
    (h : s.wrk.record now wall id key rc o = .ok (w', k)) :
    ∃ m, find? s.wrk.regs id = some m ∧
      ((m.num = (s.wrk.limitOf id).1 ∧ keysOf w'.recs id = (keysOf s.wrk.recs id).tail ++ [key]) ∨
       (m.num < (s.wrk.limitOf id).1 ∧ keysOf w'.recs id = keysOf s.wrk.recs id ++ [key])) := by
  obtain ⟨hwi, hkd⟩ := wrkAll_reachable g hg s hs
  obtain ⟨m, rc', hm, rfl, hgt, _, hk, hshape⟩ := record_shape hwi hq.1 h
  obtain ⟨rfl, _⟩ := hk.wrk hkd
  have hkeys := fun drop n l => (stored_keysOf rc' drop n l hwi.reg hm hgt m.id).trans (if_pos rfl)
  rcases hshape with ⟨hfull, hlow, rfl⟩ | ⟨hroom, rfl⟩
  · exact ⟨m, hm, Or.inl ⟨hfull, (hkeys _ _ _).trans (hwi.pruned_keys hm hlow k).1⟩⟩
  · exact ⟨m, hm, Or.inr ⟨hroom, hkeys _ _ _⟩⟩

/-- The limit starts at the default in force at registration. -/
theorem c08_limit_starts_at_default (s : RegState) (now : Nat) (mk nm gn ty : String) (o : AddrTok)
    (s' : RegState) (id : Nat) (h : s.register now mk nm gn ty o = .ok (s', id)) :
    find? s'.limits id = some s.params.defLimit := by
  obtain ⟨oa, _, rfl, rfl⟩ := RegState.register_ok h
  exact find_insert_eq _ _ _

/-- reported remaining purchasable capacity (message response and, after the `fix:`, the *Storage
queries) is `max(0, maximum − limit)` -/
theorem c08_remaining_capacity (s : RegState) (id l : Nat) (h : find? s.limits id = some l) :
    s.maxPurchasable id = s.params.maxLimit - l := by
  simp only [RegState.maxPurchasable, RegState.limitOf, h]
  by_cases h1 : l ≥ s.params.maxLimit <;> simp [h1]

/-- A successful purchase is made by the registered owner, raises the limit by exactly the purchased
number, and the new limit does not exceed the maximum in force; the reported remaining capacity is
`max(0, maximum − limit)`. -/
theorem c08_purchase_raises_by_exactly_n (g : GenCfg) (hg : GenRegValid g) (s : State) (hs : FineReach g RegQ s)
    (k : RegKind) (id n : Nat) (o : AddrTok) (r' : RegState) (can : Nat) (hn : n < two64)
    (h : (s.reg k).purchase id n o = .ok (r', can)) :
    (∃ oa m, o.decode = some oa ∧ find? (s.reg k).regs id = some m ∧ m.owner.decode = some oa) ∧
    (r'.limitOf id).1 = ((s.reg k).limitOf id).1 + n ∧
    (r'.limitOf id).1 ≤ (s.reg k).params.maxLimit ∧
    (∀ id', id' ≠ id → r'.limitOf id' = (s.reg k).limitOf id') ∧
    can = (s.reg k).params.maxLimit - (r'.limitOf id).1 := by
  obtain ⟨oa, m, hoa, hm, hown, _, hmono, hmax, hs', rfl⟩ := RegState.purchase_ok h
  have hl : (r'.limitOf id).1 = _ := congrArg Prod.fst ((limitOf_insert (congrArg RegState.limits hs') id).trans (if_pos rfl))
  refine ⟨⟨oa, m, hoa, hm, hown⟩, hl.trans (addU64_no_wrap _ _ hn hmono), hl ▸ hmax,
    fun id' hne => (limitOf_insert (congrArg RegState.limits hs') id').trans (if_neg (Ne.symm hne)), ?_⟩
  rw [hl]; subst hs'
  exact c08_remaining_capacity _ id _ (find_insert_eq _ _ _)

/-- The limit of a registration changes only by a storage purchase: every other elementary step of
the application (any message of any module, nested or not, ante effects, block hooks) leaves every
limit untouched, and a purchase never lowers a limit. -/
theorem c08_limit_changes_only_by_purchase (g : GenCfg) (hg : GenRegValid g) (s s' : State) (hs : FineReach g RegQ s)
    (hstep : FineStep s s') (k : RegKind) (id : Nat) :
    ((s'.reg k).limitOf id = (s.reg k).limitOf id) ∨
    (∃ n o can, (s.reg k).purchase id n o = .ok (s'.reg k, can) ∧ ((s.reg k).limitOf id).1 ≤ ((s'.reg k).limitOf id).1) ∨
    (find? (s.reg k).regs id = none ∧ ∃ now mk nm gn ty o, (s.reg k).register now mk nm gn ty o = .ok (s'.reg k, id)) := by
  have hri := (regAll_of_regQ g hg s hs k).1
  rcases fineStep_reg k hstep with he | ⟨wall, hop⟩
  · left; rw [he]
  · cases hop with
    | register mk nm gn ty o id' h =>
      obtain ⟨oa, _, hs', rfl⟩ := RegState.register_ok h
      rw [hs', limitOf_insert (s := s.reg k) rfl]
      by_cases hid : (s.reg k).nextId = id
      · exact Or.inr (Or.inr ⟨hid ▸ hri.reg.fresh.1, _, mk, nm, gn, ty, o, hid ▸ hs' ▸ h⟩)
      · exact Or.inl (if_neg hid)
    | record id' key rc o k' h =>
      left; unfold RegState.limitOf; rw [(record_frame h).limits]
    | purchase id' n o can h =>
      obtain ⟨_, _, _, _, _, _, hmono, _, hs', _⟩ := RegState.purchase_ok h
      rw [hs', limitOf_insert (s := s.reg k) rfl]
      by_cases hid : id' = id
      · subst hid
        exact Or.inr (Or.inl ⟨n, o, can, hs' ▸ h, by rw [if_pos rfl]; exact hmono⟩)
      · exact Or.inl (if_neg hid)
    | setParams p h =>
      obtain ⟨_, hs'⟩ := RegState.setParams_ok h
      left; rw [hs']; rfl

/-- the compile-time default limit used for a registration without a limit entry is the source's -/
theorem c08_limits_from_source :
    AL.find? Facts.limits "wrkchain.DefaultStorageLimit" = some constDefaultStorageLimit ∧
    AL.find? Facts.limits "beacon.DefaultStorageLimit" = some constDefaultStorageLimit := by
  simp [Facts.limits, AL.find_cons_self, AL.find_cons_ne, constDefaultStorageLimit]

end C08
end Mainchain
