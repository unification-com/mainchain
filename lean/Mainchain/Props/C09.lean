import Mainchain.Lemmas.RegistryReach
/-
C09 — Registrations get unique sequential IDs and an immutable sole-writer owner.

`FineReach g RegQ s` with `GenRegValid g` : `s` is any state of any run from a genesis `g` whose
registry parameters validate (transactions of every kind, nested authz, governance, block hooks) in
which no 64-bit counter of the two modules has reached 2^64 − 1 (history assumption `RegQ`).
`FinePathQ RegQ s s'` : `s'` is any later state of such a run.
-/
namespace Mainchain
namespace C09
open AL

/-- Each successful registration receives the next identifier (the id counter, which starts at the
genesis starting id: `c09_first_id_is_genesis_start`), the counter advances by one, the id is not
registered at that moment (nor was it ever, by `c09_registration_frozen`), and exactly the
submitted moniker, name, type/genesis hash and the signer (canonical spelling) are stored. -/
theorem c09_ids_sequential_and_fields_verbatim (g : GenCfg) (hg : GenRegValid g) (s : State)
    (hs : FineReach g RegQ s) (hq : RegQ s) (k : RegKind) (now : Nat) (mk nm gn ty : String) (o : AddrTok)
    (r' : RegState) (id : Nat) (h : (s.reg k).register now mk nm gn ty o = .ok (r', id)) :
    id = (s.reg k).nextId ∧ r'.nextId = id + 1 ∧ find? (s.reg k).regs id = none ∧
    ∃ oa m, o.decode = some oa ∧ find? r'.regs id = some m ∧ m.id = id ∧ m.owner = AddrTok.canon oa ∧
      m.moniker = mk ∧ m.name = nm ∧ m.regTime = now ∧
      (match (s.reg k).kind with | .wrk => m.genesis = gn ∧ m.type = ty | .bcn => True) := by
  obtain ⟨oa, hoa, rfl, rfl⟩ := RegState.register_ok h
  refine ⟨rfl, addU64_small _ _ (hq.reg k).1, (regAll_of_regQ g hg s hs k).1.reg.fresh.1,
    oa, _, hoa, find_insert_eq _ _ _, rfl, rfl, rfl, rfl, rfl, ?_⟩
  cases (s.reg k).kind with
  | wrk => exact ⟨rfl, rfl⟩
  | bcn => trivial

/-- in the genesis state the id counter of either module is its genesis starting id (that a
registration receives the counter is `c09_ids_sequential_and_fields_verbatim`) -/
theorem c09_first_id_is_genesis_start (g : GenCfg) :
    (initState g).wrk.nextId = g.wrkStart ∧ (initState g).bcn.nextId = g.bcnStart := ⟨rfl, rfl⟩

/-- Once registered, the id, owner, moniker, name, type/genesis hash and registration time of a
WRKChain/BEACON never change, and the registration never disappears: in every later state of
every run the same values are returned. -/
theorem c09_registration_frozen (g : GenCfg) (hg : GenRegValid g) (s s' : State)
    (hs : FineReach g RegQ s) (hp : FinePathQ RegQ s s') (k : RegKind) (id : Nat) (m : RegMeta)
    (hm : find? (s.reg k).regs id = some m) :
    ∃ m', find? (s'.reg k).regs id = some m' ∧ m'.owner = m.owner ∧ m'.moniker = m.moniker ∧ m'.name = m.name ∧
      m'.genesis = m.genesis ∧ m'.type = m.type ∧ m'.regTime = m.regTime ∧ m'.id = m.id := by
  obtain ⟨m', h1, _, h2⟩ := (registries_stable g hg s s' hs hp k).1 id m hm
  exact ⟨m', h1, h2⟩

/-- ids are never reused: every registered id is below the id counter, which is the next id handed out
(`c09_ids_sequential_and_fields_verbatim`), and a registration never disappears (`c09_registration_frozen`) -/
theorem c09_ids_never_reused (g : GenCfg) (hg : GenRegValid g) (s : State) (hs : FineReach g RegQ s)
    (k : RegKind) (id : Nat) (m : RegMeta) (hm : find? (s.reg k).regs id = some m) : id < (s.reg k).nextId :=
  ((regAll_of_regQ g hg s hs k).1.reg.idsBelowNext id m hm).2

/-- Only the registered owner can record to a registration or purchase storage for it: a successful
record or purchase names (as `Owner`, the field that must sign) an address that decodes to the
stored owner. -/
theorem c09_only_owner_writes (s : RegState) (now wall id key n : Nat) (rc : Rec) (o : AddrTok) :
    (∀ s' k, s.record now wall id key rc o = .ok (s', k) →
        ∃ oa m, o.decode = some oa ∧ find? s.regs id = some m ∧ m.owner.decode = some oa) ∧
    (∀ s' can, s.purchase id n o = .ok (s', can) →
        ∃ oa m, o.decode = some oa ∧ find? s.regs id = some m ∧ m.owner.decode = some oa) := by
  constructor
  · intro s' k h
    obtain ⟨oa, m, hoa, hm, hown, _⟩ := RegState.record_ok h
    exact ⟨oa, m, hoa, hm, hown⟩
  · intro s' can h
    obtain ⟨oa, m, hoa, hm, hown, _⟩ := RegState.purchase_ok h
    exact ⟨oa, m, hoa, hm, hown⟩

/-- attempts against unknown identifiers, or by anyone but the owner, are rejected (an error, hence
no effect: a failing message yields no state) -/
theorem c09_unknown_or_foreign_rejected (s : RegState) (now wall id key n : Nat) (rc : Rec) (o : AddrTok)
    (h : ∀ oa m, o.decode = some oa → find? s.regs id = some m → m.owner.decode ≠ some oa) :
    (∀ s' k, s.record now wall id key rc o ≠ .ok (s', k)) ∧ (∀ s' can, s.purchase id n o ≠ .ok (s', can)) := by
  obtain ⟨h1, h2⟩ := c09_only_owner_writes s now wall id key n rc o
  constructor
  · intro s' k hk
    obtain ⟨oa, m, a, b, c⟩ := h1 s' k hk
    exact h oa m a b c
  · intro s' can hk
    obtain ⟨oa, m, a, b, c⟩ := h2 s' can hk
    exact h oa m a b c

/-- the byte limits of moniker, name and genesis hash in the model are the ones the source compares with -/
theorem c09_limits_from_source :
    ["wrkchain.msgs.Moniker.>", "beacon.msgs.Moniker.>"].all (fun k => decide (AL.find? Facts.limits k = some maxMonikerLen)) = true ∧
    ["wrkchain.msgs.Name.>", "beacon.msgs.Name.>"].all (fun k => decide (AL.find? Facts.limits k = some maxNameLen)) = true ∧
    AL.find? Facts.limits "wrkchain.msgs.GenesisHash.>" = some maxHashLen ∧
    -- where the message servers repeat a `ValidateBasic` bound literally it is the same number
    ["wrkchain.msg_server.Moniker.>", "beacon.msg_server.Moniker.>"].all
      (fun k => decide (AL.find? Facts.limits k = none ∨ AL.find? Facts.limits k = some maxMonikerLen)) = true ∧
    ["wrkchain.msg_server.Name.>", "beacon.msg_server.Name.>"].all
      (fun k => decide (AL.find? Facts.limits k = none ∨ AL.find? Facts.limits k = some maxNameLen)) = true := by
  simp [Facts.limits, AL.find_cons_self, AL.find_cons_ne, maxMonikerLen, maxNameLen, maxHashLen]

end C09
end Mainchain
