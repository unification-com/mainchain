import Mainchain.Lemmas.StreamReach
/-
C10 — Stream escrow is conserved and always fully backed.

`FineReach g BankSane s` : `s` is any state of any run from genesis `g` (every message kind, nested
authz, governance, ante effects, block hooks).  `BankSane` is the trusted-base assumption that the
SDK's `LockedCoins` never reports a negative amount.
-/
namespace Mainchain
namespace C10
open AL Bank

/-- At every block boundary (indeed in every intermediate state) the stream escrow account holds, per
denomination, exactly the sum of the remaining deposits of all streams; deposits are never negative. -/
theorem c10_escrow_eq_sum_deposits (g : GenCfg) (hg : GenBankValid g) (s : State) (h : FineReach g BankSane s) :
    (∀ d, (s.bank.balOf Mstr d : Int) = depositSum (toSB s) d) ∧
    (∀ key st, find? s.str.streams key = some st → 0 ≤ st.deposit) := by
  have hi := strInv_reachable g hg s h
  exact ⟨hi.backed, hi.nonneg⟩

/-- No elementary step other than a stream operation moves the escrow's funds: if a step leaves the
stream table as it was (every non-stream message, transfers aimed at the escrow, fee deduction, the
eFUND unlock, begin-block minting), the escrow balance is unchanged in every denomination. -/
theorem c10_only_stream_ops_move_escrow (g : GenCfg) (hg : GenBankValid g) (s s' : State)
    (h : FineReach g BankSane s) (hq : BankSane s) (hs : FineStep s s') (hsame : s'.str.streams = s.str.streams) :
    ∀ d, s'.bank.balOf Mstr d = s.bank.balOf Mstr d := by
  have hi := strInv_reachable g hg s h
  have hi' := strInv_step hq hi hs
  intro d
  have h1 := hi.backed d
  have h2 := hi'.backed d
  simp only [depositSum, toSB, hsame] at h1 h2
  omega

/-- a direct transfer aimed at the escrow account is refused (the account is a blocked recipient) — stated for the lower-case
spelling `.ok Mstr false` of its address; `send_to_blocked_rejected` says it of every spelling of every blocked address -/
theorem c10_send_to_escrow_rejected (wall : Nat) (s : State) (src : AddrTok) (coins : Coins) (s' : State) (r : Resp) :
    execMsg wall s (.bankSend src (.ok Mstr false) coins) ≠ .ok (s', r) :=
  send_to_blocked_rejected rfl isBlocked_Mstr

/-- Each release reports (in the returned `ClaimOut`) `floor(released × validator-fee rate)` as the fee
collector's share and the rest as the receiver's; the released amount leaves the stored deposit and
nothing else does.  (That the bank moves these amounts — out of the escrow, to the receiver — is
`Claimed.escrow`/`Claimed.other` in Lemmas/StreamInv, not part of this statement.) -/
theorem c10_release_conserves_and_fee_split (x x' : SB) (now : Int) (r s : Addr) (o : ClaimOut) (hi : StreamInv x)
    (h : claimFromStream x now isBlocked r s = .ok (x', o)) :
    ∃ st, find? x.str.streams (r, s) = some st ∧
      o.pay + o.fee = o.total ∧ o.total + o.rem = st.deposit ∧ 0 ≤ o.pay ∧ 0 ≤ o.fee ∧ 0 ≤ o.rem ∧
      o.fee = (if x.str.fee > 0 then (o.total * x.str.fee) / (pow18 : Int) else 0) ∧
      find? x'.str.streams (r, s) = some { st with deposit := o.rem, last := now } := by
  obtain ⟨st, _, hf, _⟩ := claim_iff.mp h
  have c := claim_spec isBlocked_Mstr hi hf h
  refine ⟨st, hf, c.split, c.sum, c.pay0, c.fee0, c.rem0, ?_, by rw [c.rem]; exact claim_stores h hf⟩
  -- the fee is floor(total·fee) : big.Int.Quo on non-negative operands is the floor
  rw [c.feeEq]
  split
  · rename_i hpos
    have : 0 ≤ o.total := by have := c.split; have := c.pay0; have := c.fee0; omega
    unfold feeOf
    rw [Int.tdiv_eq_ediv_of_nonneg (Int.mul_nonneg this (Int.le_of_lt hpos))]
  · rfl

/-- A top-up by a sender other than the escrow account (an account whose `LockedCoins` are non-negative) keeps the
escrow fully backed: after it — and after the settlement of an expired stream that precedes it — the escrow again holds,
per denomination, exactly the sum of the remaining deposits.  (By how much the deposit and the zero time of the stream
move is `C11.c11_topup_extends_zero_time`.) -/
theorem c10_topup_adds_exactly (x x' : SB) (now : Int) (r s : Addr) (denom : String) (amt : Int) (hi : StreamInv x)
    (hs : s ≠ Mstr) (hlock : ∀ d, 0 ≤ Coins.amountOf (lockedCoins x.bank (now / nsPerSec) s) d)
    (h : addDeposit x now isBlocked r s denom amt = .ok x') : StreamInv x' :=
  addDeposit_inv isBlocked_Mstr hi hs hlock h

-- non-vacuity: a concrete genesis, with two of the facts `GenBankValid` asks of it (escrow empty in `nund`, distinct balance keys)
def exGen : GenCfg :=
  { timeSec := 1700000000,
    accts := [{ id := 0, exists_ := true, balance := [{ denom := "nund", amt := 1000 }], vest := none },
              { id := 1, exists_ := true, balance := [{ denom := "nund", amt := 500 }],
                vest := some { orig := [{ denom := "nund", amt := 500 }], endTime := 1800000000 } }] }
example : (initState exGen).bank.balOf Mstr "nund" = 0 := by decide
example : (keys (initState exGen).bank.bal).Nodup := by decide

/-- **A second `CreateStream` for a pair that already has a stream record is refused and changes nothing** (stated for
the canonical spelling of the two addresses, `AddrTok.canon`; for any spelling, "no record yet" is among the conditions
of success in `createStream_iff`) — whether that stream is running, has run out with part
of its deposit unclaimed, or has been emptied: the record (and whatever it still holds for the receiver) stays until it
is cancelled. -/
theorem c10_create_over_existing_stream_refused (x : SB) (now : Int) (r s : Addr) (denom : String) (amt rate : Int)
    (st : Stream) (hf : find? x.str.streams (r, s) = some st) :
    ∃ e, createStream x now isBlocked (AddrTok.canon r) (AddrTok.canon s) denom amt rate = .error e := by
  cases hc : createStream x now isBlocked (AddrTok.canon r) (AddrTok.canon s) denom amt rate with
  | error e => exact ⟨e, rfl⟩
  | ok x' =>
    obtain ⟨r', s', hs, hr, _, _, hfresh, _⟩ := createStream_iff.mp hc
    cases hs; cases hr
    rw [hf] at hfresh; cases hfresh

end C10
end Mainchain
