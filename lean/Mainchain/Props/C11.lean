import Mainchain.Lemmas.StreamRate
/-
C11 — Streams release funds at exactly the agreed rate, never faster.
Times are nanoseconds since the epoch; `secsOf` is the floor to whole seconds.
`FineReach g RateQ s` : any state of any run in which bank-lite is sane, no stream goes unclaimed for
2^63 ns (~292 years) and block times are non-negative.
-/
namespace Mainchain
namespace C11
open AL Bank

/-- Before the advertised deposit-zero time a release pays exactly
`min(remaining deposit, flow rate × whole seconds since the previous release)`;
at or after that time it pays the whole remainder. -/
theorem c11_release_amount (x x' : SB) (now : Int) (r s : Addr) (o : ClaimOut) (hi : StreamInv x)
    (hwf : StreamWF now x) (hgap : GapOK now x) (h : claimFromStream x now isBlocked r s = .ok (x', o)) :
    ∃ st, find? x.str.streams (r, s) = some st ∧
      (now < st.zero → o.total = min st.deposit (st.rate * secsOf (now - st.last))) ∧
      (st.zero ≤ now → o.total = st.deposit) ∧ o.rem = st.deposit - o.total := by
  obtain ⟨st, _, hf, _, htot, hrem, _⟩ := claim_iff.mp h
  have hsum := calcAmountToClaim_sum now st.zero st.last st.deposit st.rate
  refine ⟨st, hf, ?_, ?_, by omega⟩
  · intro hlt
    rw [htot]
    exact (claim_amount_before_zero now st.zero st.last st.deposit st.rate hlt (hwf.lastLe _ _ hf) (hgap _ _ hf)).1
  · intro hge
    rw [htot, claim_amount_after_zero _ _ _ _ _ hge]

/-- never faster: before the zero time the amount released is at most rate × elapsed whole seconds -/
theorem c11_never_faster (x x' : SB) (now : Int) (r s : Addr) (o : ClaimOut) (hi : StreamInv x)
    (hwf : StreamWF now x) (hgap : GapOK now x) (h : claimFromStream x now isBlocked r s = .ok (x', o)) :
    ∀ st, find? x.str.streams (r, s) = some st → now < st.zero → o.total ≤ st.rate * secsOf (now - st.last) := by
  intro st hf hlt
  obtain ⟨st', hf', h1, _, _⟩ := c11_release_amount x x' now r s o hi hwf hgap h
  rw [hf] at hf'; cases hf'
  rw [h1 hlt]; omega

/-- The deposit-zero time is the funding time plus floor(deposit / flow rate) seconds: a stream created
at `now` with deposit `D` and rate `r` is stored with zero time `now + ⌊D/r⌋ s`, last release `now`,
deposit `D`. -/
theorem c11_zero_time_on_create (x x' : SB) (now : Int) (rT sT : AddrTok) (denom : String) (amt rate : Int)
    (hi : StreamInv x) (hnow : 0 ≤ now) (h : createStream x now isBlocked rT sT denom amt rate = .ok x') :
    ∃ r s st, rT.decode = some r ∧ sT.decode = some s ∧ find? x'.str.streams (r, s) = some st ∧
      st.deposit = amt ∧ st.rate = rate ∧ st.last = now ∧ st.zero = now + (amt / rate) * 1000000000 ∧
      rate * (amt / rate) ≤ amt := by
  obtain ⟨ra, sa, hsa, hra, _, _, _, hamt, hrate, _, h⟩ := createStream_iff.mp h
  obtain ⟨st, y, hst, _, _, hext, _, _, hstr⟩ := addDeposit_iff.mp h
  rw [find_setStream] at hst
  cases hst
  replace hext : calcDuration amt rate ≤ maxDurationSeconds := hext
  have hd := calcDuration_bounds amt rate (Int.le_of_lt hamt) hrate
  -- the quotient fits an int64, else the duration limit would have refused the deposit
  have hq : calcDuration amt rate = amt / rate := by
    unfold calcDuration at hext ⊢
    have : ¬ rate ≤ 0 := by omega
    simp only [this, if_false, hamt, if_true] at hext ⊢
    split
    · rfl
    · rename_i hbig
      rw [if_neg hbig] at hext
      unfold maxDurationSeconds maxI64 at hext; omega
  refine ⟨ra, sa, topped now amt (.fresh now denom rate), hra, hsa, find_of_set hstr, ?_⟩
  simp only [topped, settled, Stream.fresh, if_pos hnow, Int.lt_irrefl, if_false, Int.zero_add, true_and]
  exact ⟨by rw [addSeconds_exact now _ hd.1 hext, hq]; rfl, by rw [← hq]; exact hd.2⟩

/-- At every moment the remaining deposit suffices to sustain the flow rate from the last release until
the advertised deposit-zero time (or the stream is empty and already expired): holds for every stored
stream in every state of every run — so a receiver can never drain a stream earlier than advertised. -/
theorem c11_solvency (g : GenCfg) (hg : GenBankValid g) (s : State) (h : FineReach g RateQ s) :
    ∀ key st, find? s.str.streams key = some st →
      1 ≤ st.rate ∧ st.last ≤ s.time ∧
      (st.rate * secsOf (st.zero - st.last) ≤ st.deposit ∨ (st.deposit = 0 ∧ st.zero ≤ s.time)) := by
  intro key st hk
  have hw := (strWF_reachable g hg s h).2
  exact ⟨hw.rate key st hk, hw.lastLe key st hk, hw.solv key st hk⟩

/-- consequence: after any claim made before the zero time, what remains still covers the rate up to
the zero time -/
theorem c11_remainder_covers_rest (now : Int) (st : Stream) (hr : 1 ≤ st.rate) (hd : 0 ≤ st.deposit)
    (hl : st.last ≤ now) (hgap : now - st.last ≤ maxI64) (hs : Solv now st) (hlt : now < st.zero) :
    st.rate * secsOf (st.zero - now) ≤ (calcAmountToClaim now st.zero st.last st.deposit st.rate).2 := by
  rcases solv_after_claim hr hl hgap hs with h1 | ⟨_, h2⟩
  · exact h1
  · exact absurd h2 (by show ¬ st.zero ≤ now; omega)

/-- A cancelling sender gets back exactly the unreleased remainder: the refund is the deposit left by
the settlement (`deposit − released`), and the stream is removed. -/
theorem c11_cancel_refunds_unreleased (x x' : SB) (now : Int) (r s : Addr) (hi : StreamInv x)
    (h : cancelStream x now isBlocked r s = .ok x') :
    ∃ st z, find? x.str.streams (r, s) = some st ∧ settleIfFunded x now isBlocked r s st = .ok z ∧
      payOut z.1.bank (now / nsPerSec) isBlocked s z.2.denom z.2.deposit = .ok x'.bank ∧
      (0 < st.deposit → z.2.deposit = (calcAmountToClaim now st.zero st.last st.deposit st.rate).2) ∧
      find? x'.str.streams (r, s) = none := by
  obtain ⟨st, y, hf, _, hy, hto, hbank, hstr⟩ := cancelStream_iff.mp h
  refine ⟨st, (y, settled now st), hf, (settle_iff hf).mpr ⟨hy, rfl⟩, payOut_iff.mpr ⟨hto, hbank⟩, fun hpos => ?_, ?_⟩
  · show (settled now st).deposit = _
    unfold settled; rw [if_pos hpos]; rfl
  · rw [hstr]; exact find_erase_eq _ _ (hy.spec isBlocked_Mstr hi hf).1.nodup

-- non-vacuity: concrete numbers (deposit 100 at rate 1: 5 s after creation 5 are released, 95 remain)
example : calcAmountToClaim 1700000010000000000 1700000105000000000 1700000005000000000 100 1 = (5, 95) := by decide
example : calcDuration 100 1 = 100 := by decide

/-- the minimum funded duration of the model is the source's (ValidateBasic and message server) -/
theorem c11_limits_from_source :
    (AL.find? Facts.limits "stream.msgs.duration.<").map Int.ofNat = some minStreamDuration ∧
    (AL.find? Facts.limits "stream.msg_server.duration.<").map Int.ofNat = some minStreamDuration := by
  simp [Facts.limits, AL.find_cons_self, AL.find_cons_ne, minStreamDuration]

/-- **Every release restarts the clock.**  After a successful claim the stream is stored with the claim's block time as
its last-release time and the unreleased remainder as its deposit; rate and advertised zero time are untouched. -/
theorem c11_claim_restarts_the_clock (x x' : SB) (now : Int) (r s : Addr) (o : ClaimOut) (hi : StreamInv x)
    (h : claimFromStream x now isBlocked r s = .ok (x', o)) :
    ∃ st st', find? x.str.streams (r, s) = some st ∧ find? x'.str.streams (r, s) = some st' ∧
      st'.last = now ∧ st'.deposit = o.rem ∧ st'.rate = st.rate ∧ st'.zero = st.zero := by
  obtain ⟨st, _, hf, _, _, hrem, _⟩ := claim_iff.mp h
  exact ⟨st, claimed now st, hf, claim_stores h hf, rfl, hrem.symm, rfl, rfl⟩

/-- **A flow-rate change settles at the old rate, restarts the clock and recomputes the zero time from the settled
remainder**: for a stream holding a positive deposit, whatever happened before — also when the settlement itself pays
nothing because less than a second has passed since the previous release — the stream is stored with last release = the
block time, the new rate (stored for an empty stream too), deposit = the remainder after the settlement, and zero time =
`addSeconds` block time (`calcDuration` remainder new-rate): block time + ⌊remainder / new rate⌋ seconds whenever the new
rate is at least 1 and that quotient within `MaxDurationSeconds` (`addSeconds_exact`, as in `c11_zero_time_on_create`). -/
theorem c11_rate_change_restarts_the_clock (x x' : SB) (now : Int) (r s : Addr) (newRate : Int) (hi : StreamInv x)
    (h : setNewFlowRate x now isBlocked r s newRate = .ok x') :
    ∃ st st', find? x.str.streams (r, s) = some st ∧ find? x'.str.streams (r, s) = some st' ∧ st'.rate = newRate ∧
      (0 < st.deposit →
        st'.last = now ∧ st'.deposit = (calcAmountToClaim now st.zero st.last st.deposit st.rate).2 ∧
        st'.zero = addSeconds now (calcDuration st'.deposit newRate)) := by
  obtain ⟨st, y, hf, _, _, rfl⟩ := setNewFlowRate_iff.mp h
  refine ⟨st, rerated now newRate st, hf, find_of_set rfl, (rerated_fields now newRate st).2.1, fun hpos => ?_⟩
  unfold rerated; rw [if_pos hpos]
  exact ⟨rfl, rfl, rfl⟩

/-- **A top-up extends the advertised zero time by ⌊top-up / flow rate⌋ seconds** when the stream is still running
(last release and rate untouched, deposit raised by exactly the top-up); on a stream that has run out it first settles
what is left, restarts the clock at the block time and advertises block time + ⌊top-up / flow rate⌋ seconds.  Both times
are stated as `addSeconds t (calcDuration top-up rate)`, which is `t` + ⌊top-up / flow rate⌋ seconds whenever the top-up is
not negative, the rate at least 1 and that quotient within `MaxDurationSeconds` (`addSeconds_exact`, as in
`c11_zero_time_on_create`). -/
theorem c11_topup_extends_zero_time (x x' : SB) (now : Int) (r s : Addr) (denom : String) (amt : Int) (hi : StreamInv x)
    (h : addDeposit x now isBlocked r s denom amt = .ok x') :
    ∃ st st', find? x.str.streams (r, s) = some st ∧ find? x'.str.streams (r, s) = some st' ∧ st'.rate = st.rate ∧
      (now < st.zero → st'.last = st.last ∧ st'.deposit = st.deposit + amt ∧
        st'.zero = addSeconds st.zero (calcDuration amt st.rate)) ∧
      (st.zero ≤ now → st'.last = now ∧ st'.zero = addSeconds now (calcDuration amt st.rate) ∧
        st'.deposit = (if 0 < st.deposit then (calcAmountToClaim now st.zero st.last st.deposit st.rate).2 else st.deposit) + amt) := by
  obtain ⟨st, y, hf, _, _, _, _, _, hstr⟩ := addDeposit_iff.mp h
  refine ⟨st, topped now amt st, hf, find_of_set hstr, (topped_fields now amt st).2.1, fun hlt => ?_, fun hge => ?_⟩
  · unfold topped; rw [if_neg (show ¬ st.zero ≤ now by omega)]
    exact ⟨rfl, rfl, rfl⟩
  · unfold topped settled; rw [if_pos hge]
    refine ⟨rfl, rfl, ?_⟩
    split <;> rfl

end C11
end Mainchain
