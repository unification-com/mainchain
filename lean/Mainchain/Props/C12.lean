import Mainchain.Lemmas.StreamLive
/-
C12 — Stream funds are never stranded.
`FineReach g RateQ s` : as in C11, any state of any run in which bank-lite is sane, no stream goes
unclaimed for 2^63 ns and block times are non-negative; "every state of every run" below means these.
-/
namespace Mainchain
namespace C12
open AL Bank

/-- the pure arithmetic of x/stream never panics: `CalculateDuration` and `CalculateAmountToClaim`
are total by their types alone (`calcDuration`, `calcAmountToClaim` return plain values, not `M`, for
every deposit, rate and time); what is stated is that `CalculateValidatorFee` succeeds for every
non-negative amount and every fee rate in [0,1] -/
theorem c12_arithmetic_never_panics (fee amount : Int) (hf0 : 0 ≤ fee) (hf1 : fee ≤ (pow18 : Int)) (ha : 0 ≤ amount) :
    ∃ pay f, calcValidatorFee fee amount = .ok (pay, f) ∧ pay + f = amount ∧ 0 ≤ pay ∧ 0 ≤ f := by
  obtain ⟨⟨pay, f⟩, hp⟩ := calcValidatorFee_succeeds fee amount hf1 ha
  obtain ⟨h1, h2, h3, _⟩ := calcValidatorFee_split ha hp
  exact ⟨pay, f, hp, h1, h2, h3⟩

/-- For every stream that holds a positive deposit, in every state of every run, a claim by the
receiver succeeds — for every amount, flow rate, elapsed time and validator-fee rate in [0,1].
(`Small` : balances below 2^255, so that the 256-bit `sdk.Int` of the bank cannot overflow.) -/
theorem c12_claim_succeeds (g : GenCfg) (hg : GenBankValid g) (s : State) (h : FineReach g RateQ s)
    (hfee : 0 ≤ s.str.fee ∧ s.str.fee ≤ (pow18 : Int)) (hsmall : Small s.bank)
    (r sn : Addr) (st : Stream) (hf : find? s.str.streams (r, sn) = some st) (hpos : 0 < st.deposit) :
    ∃ x' o, claimStream (toSB s) s.time isBlocked (.ok r false) (.ok sn false) = .ok (x', o) ∧
      o.pay + o.fee = o.total ∧ 0 < o.total + o.rem := by
  obtain ⟨hi, hwf⟩ := strWF_reachable g hg s h
  obtain ⟨x', o, hc⟩ := claim_succeeds (toSB s) s.time r sn st hi hwf hfee.2 hsmall hf hpos
  have c := claim_spec isBlocked_Mstr hi hf hc
  exact ⟨x', o, claimStream_iff.mpr ⟨r, sn, rfl, rfl, hc⟩, c.split, by have := c.sum; omega⟩

/-- …and a cancel by the (non-blocked) sender succeeds and removes the stream, returning the
unreleased remainder (see `C11.c11_cancel_refunds_unreleased`) — for a validator-fee rate in [0,1]
(`hfee`) and balances below 2^254 (`Small254`). -/
theorem c12_cancel_succeeds (g : GenCfg) (hg : GenBankValid g) (s : State) (h : FineReach g RateQ s)
    (hfee : 0 ≤ s.str.fee ∧ s.str.fee ≤ (pow18 : Int)) (hsmall : Small254 s.bank)
    (r sn : Addr) (st : Stream) (hf : find? s.str.streams (r, sn) = some st) (hs : MaySign sn) :
    ∃ x', cancelStreamMsg (toSB s) s.time isBlocked (.ok r false) (.ok sn false) = .ok x' := by
  obtain ⟨hi, hwf⟩ := strWF_reachable g hg s h
  obtain ⟨x', hc⟩ := cancel_succeeds (toSB s) s.time r sn st hi hwf hfee.2 hsmall hf (maySign_not_blocked sn hs)
  exact ⟨x', cancelStreamMsg_iff.mpr ⟨r, sn, rfl, rfl, hc⟩⟩

/-- …and **a top-up the sender can afford succeeds**, on a running stream as on one that has run out (which is settled
first): for every stream in every state of every run, every positive amount the (non-vesting, non-blocked) sender holds in
the stream's denomination, provided the run time it buys, ⌊amount / flow rate⌋ seconds, is within the module's limit
`MaxDurationSeconds` (about 292 years — the handler enforces that limit per top-up; in the model it is the one way a top-up the sender can
afford is refused, and it is deliberate) — and, as for the cancel, the validator-fee rate is in [0,1] (`hfee`) and balances are
below 2^254 (`Small254`). -/
theorem c12_topup_succeeds (g : GenCfg) (hg : GenBankValid g) (s : State) (h : FineReach g RateQ s)
    (hfee : 0 ≤ s.str.fee ∧ s.str.fee ≤ (pow18 : Int)) (hsmall : Small254 s.bank)
    (r sn : Addr) (st : Stream) (hf : find? s.str.streams (r, sn) = some st) (hs : MaySign sn)
    (amt : Int) (hamt : 0 < amt) (hnv : find? s.bank.vest sn = none) (hfunds : amt ≤ s.bank.balOf sn st.denom)
    (hdur : calcDuration amt st.rate ≤ maxDurationSeconds) :
    ∃ out, topUpDeposit (toSB s) s.time isBlocked (.ok r false) (.ok sn false) st.denom amt = .ok out := by
  obtain ⟨hi, hwf⟩ := strWF_reachable g hg s h
  obtain ⟨x', hc⟩ := topup_succeeds (toSB s) s.time r sn st hi hwf hfee.2 hsmall hf (maySign_not_blocked sn hs) amt hamt hnv hfunds hdur
  exact ⟨(x', ((find? x'.str.streams (r, sn)).getD st).deposit, ((find? x'.str.streams (r, sn)).getD st).zero),
    topUpDeposit_iff.mpr ⟨r, sn, st, rfl, rfl, hamt, hf, hc, rfl⟩⟩

/-- A successful parameter update of the stream module stores a validator-fee rate within [0,1]: the handler validates
it.  (The theorems above take the rate within [0,1] as their premise `hfee`; that it is so in every state of every run
of whole transactions and blocks, `Reachable`, is `C16.c16_params_always_valid` — not stated for `FineReach`.) -/
theorem c12_fee_rate_always_valid (wall : Nat) (s s' : State) (m : Msg) (r : Resp) (auth : AddrTok) (fee : Int)
    (h : execMsg wall s (.strParams auth fee) = .ok (s', r)) : 0 ≤ s'.str.fee ∧ s'.str.fee ≤ (pow18 : Int) := by
  cases execMsg_ok h with
  | strParams _ hv => simpa [streamParamsValid] using hv

-- the witness on which the unfixed code panicked (2·10^21 at 1 %): now a plain value
example : (calcValidatorFee 10000000000000000 2000000000000000000000).toOption = some (1980000000000000000000, 20000000000000000000) := by
  decide
example : calcDuration 10000000000000000000000 1 = 9223372036854775807 := by decide

end C12
end Mainchain
