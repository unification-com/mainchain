import Mainchain.Lemmas.Fine
import Mainchain.Lemmas.EntOps
import Mainchain.Lemmas.RegistryInv
import Mainchain.Lemmas.StreamOps
import Mainchain.Model.Pure
/-
C13 — Every state-changing message takes effect only for its entitled signer.

`m.signer` is `GetSigners()[0]` of the message: for the four custom modules it is read through the
table `Facts.signerField`, regenerated from every `GetSigners` body of x/*/types/msgs.go on each run.
-/
namespace Mainchain
namespace C13
open AL

/-- the field each message type names as its signer (regenerated from the source) -/
theorem c13_signer_fields :
    Facts.signerField = [
      ("beacon.MsgPurchaseBeaconStateStorage", "Owner"), ("beacon.MsgRecordBeaconTimestamp", "Owner"),
      ("beacon.MsgRegisterBeacon", "Owner"), ("beacon.MsgUpdateParams", "Authority"),
      ("enterprise.MsgProcessUndPurchaseOrder", "Signer"), ("enterprise.MsgUndPurchaseOrder", "Purchaser"),
      ("enterprise.MsgUpdateParams", "Authority"), ("enterprise.MsgWhitelistAddress", "Signer"),
      ("stream.MsgCancelStream", "Sender"), ("stream.MsgClaimStream", "Receiver"), ("stream.MsgCreateStream", "Sender"),
      ("stream.MsgTopUpDeposit", "Sender"), ("stream.MsgUpdateFlowRate", "Sender"), ("stream.MsgUpdateParams", "Authority"),
      ("wrkchain.MsgPurchaseWrkChainStateStorage", "Owner"), ("wrkchain.MsgRecordWrkChainBlock", "Owner"),
      ("wrkchain.MsgRegisterWrkChain", "Owner"), ("wrkchain.MsgUpdateParams", "Authority")] := rfl

/-- what entitles the signer `a` to message `m` in state `s` (the table of the statement) -/
def Entitled (s : State) (a : Addr) : Msg → Prop
  | .entRaise p _ _ => p.decode = some a ∧ s.ent.whitelist.contains a = true
  | .entDecide _ _ sg => sg.decode = some a ∧ a ∈ s.ent.params.signerAddrs
  | .entWl _ _ sg => sg.decode = some a ∧ a ∈ s.ent.params.signerAddrs
  | .entParams auth _ => auth = AddrTok.canon Mgov ∧ a = Mgov
  | .regParams _ auth _ => auth = AddrTok.canon Mgov ∧ a = Mgov
  | .strParams auth _ => auth = AddrTok.canon Mgov ∧ a = Mgov
  | .regReg _ _ _ _ _ o => o.decode = some a
  | .regRec k id _ _ o => o.decode = some a ∧ (s.reg k).ownerOf id = some a
  | .regBuy k id _ o => o.decode = some a ∧ (s.reg k).ownerOf id = some a
  | .strCreate _ sn _ _ _ => sn.decode = some a
  | .strClaim r sn => r.decode = some a ∧ ∃ sa, sn.decode = some sa ∧ (AL.contains s.str.streams (a, sa)) = true
  | .strTopup r sn _ _ => sn.decode = some a ∧ ∃ ra, r.decode = some ra ∧ (AL.contains s.str.streams (ra, a)) = true
  | .strRate r sn _ => sn.decode = some a ∧ ∃ ra, r.decode = some ra ∧ (AL.contains s.str.streams (ra, a)) = true
  | .strCancel r sn => sn.decode = some a ∧ ∃ ra, r.decode = some ra ∧ (AL.contains s.str.streams (ra, a)) = true
  | .bankSend src _ _ => src.decode = some a
  | .authzGrant g _ _ => g.decode = some a
  | .authzRevoke g _ _ => g.decode = some a
  | .feegrantGrant g _ => g.decode = some a
  | .authzExec g _ => g.decode = some a

/-- **Entitlement.**  A message handler succeeds (and so can change state) only when the account named
in the message's signer field is the party the operation belongs to: the whitelisted purchaser, a
currently authorised enterprise signer, the registered owner, the stream's sender resp. receiver, the
governance authority for parameter updates. -/
theorem c13_effect_requires_entitled_signer (wall : Nat) (s s' : State) (m : Msg) (r : Resp)
    (h : execMsg wall s m = .ok (s', r)) : ∃ a, m.signer = some a ∧ Entitled s a m := by
  rw [Msg.signer_eq]
  -- each line: the guards of the operation, then (signer field decodes to `a`, `Entitled s a m`)
  cases execMsg_ok h with
  | entRaise hx => obtain ⟨a, ha, _, _, hw, _⟩ := EntState.raise_ok hx; exact ⟨a, ha, ha, hw⟩
  | entDecide hx => obtain ⟨a, _, ha, hauth, _⟩ := EntState.decide_ok hx; exact ⟨a, ha, ha, List.contains_iff_mem.mp hauth⟩
  | entWl hx => obtain ⟨a, _, ha, _, hauth, _⟩ := EntState.whitelistMsg_ok hx; exact ⟨a, ha, ha, List.contains_iff_mem.mp hauth⟩
  | entParams ha | regParams ha | strParams ha => exact ⟨Mgov, ha ▸ rfl, ha, rfl⟩
  | regReg hx => obtain ⟨a, ha, _⟩ := RegState.register_ok hx; exact ⟨a, ha, ha⟩
  | regRec hx => obtain ⟨a, _, ha, hm, hd, _⟩ := RegState.record_ok hx; exact ⟨a, ha, ha, ownerOf_eq hm hd⟩
  | regBuy hx => obtain ⟨a, _, ha, hm, hd, _⟩ := RegState.purchase_ok hx; exact ⟨a, ha, ha, ownerOf_eq hm hd⟩
  | strCreate hx => obtain ⟨_, a, ha, _⟩ := createStream_iff.mp hx; exact ⟨a, ha, ha⟩
  | strClaim hx =>
    obtain ⟨ra, sa, hsa, hra, hc⟩ := claimStream_iff.mp hx
    obtain ⟨_, _, hf, _⟩ := claim_iff.mp hc
    exact ⟨ra, hra, hra, sa, hsa, contains_of_some hf⟩
  | strTopup hx =>
    obtain ⟨ra, sa, _, hsa, hra, _, hf, _⟩ := topUpDeposit_iff.mp hx
    exact ⟨sa, hsa, hsa, ra, hra, contains_of_some hf⟩
  | strRate hx =>
    obtain ⟨ra, sa, hsa, hra, _, hc⟩ := updateFlowRate_iff.mp hx
    obtain ⟨_, _, hf, _⟩ := setNewFlowRate_iff.mp hc
    exact ⟨sa, hsa, hsa, ra, hra, contains_of_some hf⟩
  | strCancel hx =>
    obtain ⟨ra, sa, hsa, hra, hc⟩ := cancelStreamMsg_iff.mp hx
    obtain ⟨_, _, hf, _⟩ := cancelStream_iff.mp hc
    exact ⟨sa, hsa, hsa, ra, hra, contains_of_some hf⟩
  | bankSend ha | authzGrant ha | authzRevoke ha | authzExec ha | feegrantGrant ha => exact ⟨_, ha, ha⟩

/-- **Binding to keys.**  The composed ante chain of the repository lets a transaction through only if
its signatures are exactly those of the `GetSigners` of its top-level messages, each made with the
signer's own key and current sequence, and every such signer is an address somebody can hold a key for
(never a module account).  Stated for check and deliver mode (`hm`): on recheck the signature
verification step is skipped (`stepSigVerificationR`), so `tx.sig = .ok` is not implied there. -/
theorem c13_tx_binds_signers (mode : Mode) (hm : mode ≠ .recheck) (s s' : State) (tx : Tx) (h : ante Facts.anteOrder mode s tx = .ok s') :
    tx.signers = tx.required ∧ tx.sig = .ok ∧ tx.required.all isUserAddr = true ∧
    (∀ m ∈ tx.msgs, ∀ a, m.signer = some a → a ∈ tx.signers) := by
  obtain ⟨hs, hu⟩ := ante_setPubKey h
  obtain ⟨a, b, h14⟩ := ante_mem "SigVerification" (by simp [Facts.anteOrder]) h
  have h14 := (anteStepM_ok h14).2.2.2.2 rfl
  simp only [stepSigVerificationR, hm, if_false, stepSigVerification, bind_eq_ok] at h14
  obtain ⟨_, _, h14⟩ := h14
  have hsig : tx.sig = .ok := by
    split at h14
    · assumption
    · cases h14
    · cases h14
  exact ⟨hs, hsig, hu, fun m hm a ha => hs ▸ mem_required hm ha⟩

/-- **Nesting.**  A message wrapped in an authorisation-exec runs only if the wrapper's signer (the
grantee) is itself the message's signer, or holds a grant for exactly this message type given by the
message's signer — and grants are only ever given by their (key-holding) granter
(`leaf_grantsOK`).  The handler then applies the same entitlement check as at the top level. -/
theorem c13_nested_requires_grant_from_signer (wall : Nat) (grantee : Addr) (s s' : State) (m : Msg) (ms : List Msg)
    (h : dispatch wall grantee s (m :: ms) = .ok s') :
    ∃ a, m.signer = some a ∧ (a = grantee ∨ (a, grantee, m.kind) ∈ s.grants) ∧ Msg.validateBasic s m = .ok () := by
  simp only [dispatch, bind_eq_ok, Msg.signerM_iff, require_eq_ok, Bool.or_eq_true, decide_eq_true_eq,
    List.contains_iff_mem] at h
  obtain ⟨a, ha, _, hauth, _, hvb, _⟩ := h
  exact ⟨a, ha, hauth, hvb⟩

/-- In every run, every message that executes — top level, nested at any depth, or carried by a
governance proposal — has as its signer an address that somebody can sign for or the gov module
itself, or — through an authz grant that was already in the genesis document — an account outside the application's
module range (group-policy, interchain, module-derived accounts); no module account of the application other than gov
can ever be the signer of an executed message. -/
theorem c13_executed_messages_are_signed (g : GenCfg) (hgg : GenGrantsOK g) (s s' : State) (hr : Reachable g s)
    (hs : ChainStep s s') : FinePath s s' ∧ GrantsOK s' :=
  chainStep_fine s s' hs (reachable_fine g hgg s hr).2

/-- the genesis premise is satisfiable with a grant from a 32-byte (non-key) account in the genesis document -/
example : GenGrantsOK { grants := [(2001, 0, "str.create")] } := by
  intro ga ea k h
  simp only [List.mem_cons, Prod.mk.injEq, List.not_mem_nil, or_false] at h
  obtain ⟨rfl, _, _⟩ := h
  exact Or.inr (Or.inr (by decide))

/-- an explicit fee payer (`AuthInfo.Fee.Payer`) is a required signer: a transaction naming somebody else as the payer of
its fee is executed only with that account's signature -/
theorem c13_fee_payer_signs (mode : Mode) (hm : mode ≠ .recheck) (s s' : State) (tx : Tx) (p : Addr)
    (h : ante Facts.anteOrder mode s tx = .ok s') (hp : tx.feePayer = some p) : p ∈ tx.signers ∧ tx.payer = some p := by
  have hpay : tx.payer = some p := by unfold Tx.payer; rw [hp]
  exact ⟨(c13_tx_binds_signers mode hm s s' tx h).1 ▸ payer_mem_required hpay, hpay⟩

/-- a proposal message is executed only with the gov module as its signer (that only the gov module account passes the
authority check of the four `MsgUpdateParams` handlers is in the `auth = AddrTok.canon Mgov` arguments of
`MsgExec.entParams` / `regParams` / `strParams`, Lemmas/Steps, not in this statement) -/
theorem c13_params_only_by_governance (wall : Nat) (s : State) (m : Msg) :
    (govExec wall s m).2 = true → m.signer = some Mgov := by
  unfold govExec
  split
  · intro h; cases h
  · rename_i hs; exact fun _ => Decidable.not_not.mp hs

/-- the same for a proposal carrying several messages: it is executed only if the gov module account is the
signer of every one of them -/
theorem c13_proposal_only_by_governance (wall : Nat) (s : State) (msgs : List Msg) :
    (govExecAll wall s msgs).2 = true → ∀ m ∈ msgs, m.signer = some Mgov := by
  unfold govExecAll
  split
  · rename_i hall
    intro _ m hm
    exact of_decide_eq_true (List.all_eq_true.mp hall m hm)
  · intro h; cases h

/-- **The owner gate, whatever string is stored as the owner** (`IsAuthorisedToRecord`, the only gate in front of records and
storage purchases): it lets `a` through for registration `id` exactly when the registration exists and its stored owner string
DECODES to `a`.  In particular a registration whose stored owner does not decode under the chain's address prefix — it can
only have come in through a genesis file: a foreign prefix, a typo, an empty string — is open to nobody.  (The registry state
is arbitrary here, not only a reachable one: registrations written by `InitGenesis` are covered.) -/
theorem c13_owner_gate_for_any_stored_owner (r : RegState) (id : Nat) (a : Addr) :
    (∃ m, r.ownedBy id a = .ok m) ↔ (∃ m, find? r.regs id = some m ∧ m.owner.decode = some a) := by
  constructor
  · rintro ⟨m, h⟩
    exact ⟨m, ownedBy_ok h⟩
  · rintro ⟨m, hm, hd⟩
    exact ⟨m, by simp [RegState.ownedBy, hm, hd]⟩

theorem c13_undecodable_owner_authorises_nobody (r : RegState) (id : Nat) (m : RegMeta) (hm : find? r.regs id = some m)
    (hbad : m.owner = .bad ∨ m.owner = .empty) (a : Addr) : ∀ m', r.ownedBy id a ≠ .ok m' := by
  intro m' h
  obtain ⟨hm', hd⟩ := ownedBy_ok h
  rw [hm] at hm'; cases hm'
  rcases hbad with hb | hb <;> (rw [hb] at hd; cases hd)

/-- the function the pure engine runs against the keeper's `IsAuthorisedToRecord` (`ownergate` requests: 2 modules × 19
stored spellings × 3 recorders, the whole table every run) is that gate -/
theorem c13_owner_gate_request_is_the_gate (k : RegKind) (own : Option AddrTok) (a : Addr) :
    Pure.ownerGate k own a = true ↔ ∃ o, own = some o ∧ o.decode = some a := by
  unfold Pure.ownerGate
  cases own with
  | none => simp [RegState.ownedBy, find?]
  | some o =>
    cases hd : o.decode with
    | none => simp [RegState.ownedBy, find?, hd]
    | some b =>
      by_cases hb : b = a
      · subst hb; simp [RegState.ownedBy, find?, hd]
      · simp [RegState.ownedBy, find?, hd, hb]

/-- **Records and storage purchases go through that gate, whatever is stored**: for ANY registry state, a record or a storage
purchase message takes effect only when the registration exists and its stored owner string decodes to the address the
message names as owner (which is the address that signed, `c13_effect_requires_entitled_signer`). -/
theorem c13_record_and_purchase_pass_the_owner_gate (r : RegState) (now wall id key n : Nat) (rc : Rec) (o : AddrTok) :
    (∀ x, r.record now wall id key rc o = .ok x → ∃ a m, o.decode = some a ∧ find? r.regs id = some m ∧ m.owner.decode = some a) ∧
    (∀ x, r.purchase id n o = .ok x → ∃ a m, o.decode = some a ∧ find? r.regs id = some m ∧ m.owner.decode = some a) :=
  ⟨fun _ h => have ⟨a, m, ha, hm, hd, _⟩ := RegState.record_ok h; ⟨a, m, ha, hm, hd⟩,
   fun _ h => have ⟨a, m, ha, hm, hd, _⟩ := RegState.purchase_ok h; ⟨a, m, ha, hm, hd⟩⟩

/-- the function the pure engine runs against the two MESSAGE SERVERS (`ownermsg` requests) answers "took effect" only for
the account the stored owner decodes to -/
theorem c13_owner_msg_request_respects_the_gate (k : RegKind) (buy : Bool) (own : Option AddrTok) (a : Addr)
    (h : Pure.ownerMsg k buy own a = true) : ∃ o, own = some o ∧ o.decode = some a := by
  unfold Pure.ownerMsg at h
  -- whichever handler ran, it went through the owner gate, for the address the message names (`b`, which is `a`)
  obtain ⟨b, m, hb, hm, hd⟩ : ∃ b m, (AddrTok.canon a).decode = some b ∧
      find? (match own with
        | none => ([] : List (Nat × RegMeta))
        | some o => [(1, RegMeta.mk 1 o "m" "n" "" "" 0 0 0 0)]) 1 = some m ∧ m.owner.decode = some b := by
    cases buy <;> simp only [Bool.false_eq_true, if_false, if_true] at h <;> split at h
    · rename_i x hx
      have := (c13_record_and_purchase_pass_the_owner_gate _ _ _ _ _ 0 _ _).1 x hx
      cases own <;> exact this
    · cases h
    · rename_i x hx
      have := (c13_record_and_purchase_pass_the_owner_gate _ 0 0 _ 0 _ default _).2 x hx
      cases own <;> exact this
    · cases h
  cases hb
  -- the registry of the request holds at most registration 1, with `own` as its stored owner
  cases own with
  | none => cases hm
  | some o =>
    simp only [find?, if_true, Option.some.injEq] at hm
    subst hm; exact ⟨o, rfl, hd⟩

example : Pure.ownerMsg .bcn false (some .bad) 3 = false ∧ Pure.ownerMsg .bcn false (some (.ok 3 true)) 3 = true ∧
    Pure.ownerMsg .wrk true (some (.ok 3 false)) 3 = true ∧ Pure.ownerMsg .wrk true (some .empty) 3 = false := by decide

example : Pure.ownerGate .bcn (some .bad) 3 = false ∧ Pure.ownerGate .bcn (some (.ok 3 true)) 3 = true ∧
    Pure.ownerGate .wrk (some (.ok 2 false)) 3 = false ∧ Pure.ownerGate .wrk none 3 = false := by decide

end C13
end Mainchain
