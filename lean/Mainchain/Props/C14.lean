import Mainchain.Lemmas.EntNoPanic
import Mainchain.Lemmas.Witness
/-
C14 — No history can halt the chain; failed transactions change nothing.

The model's block hooks are those of the four custom modules: the enterprise BeginBlocker (statement
order regenerated from x/enterprise/abci.go) and the governance-executed messages of EndBlock; `commit`
is a pure function of the working state.  SDK-module hooks (staking, distribution, gov tallying …) are
outside the model and are exercised by the harness with `recover()` around every ABCI call.
-/
namespace Mainchain
namespace C14
open AL Bank

/-- **BeginBlock never panics.**  In every state of every run (any history of transactions, nested
messages and governance) whose queued orders leave room below 2^255 in the bank's 256-bit integers,
the enterprise BeginBlocker — completion of every accepted order, then the tally of every raised
order — completes without a panic at any block time: every explicit `panic(...)` of blocker.go (order
missing, wrong status, undecodable purchaser, mint/lock failure) and every panicking primitive
reachable from it (Coin.Add on different denominations, Int overflow, NewCoins on an invalid coin) is
dead code under the invariants.  The two known findings are among the assumptions: governance has not
changed the enterprise denomination (in `BooksQ` along the history, `hq` for the state itself) and
amounts stay below 2^255 (`hroom`).  `BooksQ` is the history assumption of C04: it also asks that the
SDK's `LockedCoins` is never negative and the order-id counter has not reached 2^64 − 1; the genesis
has valid books and a valid enterprise denomination (`hg`, `hD`). -/
theorem c14_begin_block_never_panics (g : GenCfg) (hg : GenBooksValid g) (hD : validDenom g.ent.denom = true) (s : State)
    (h : FineReach g (BooksQ g.ent.denom) s) (hq : s.ent.params.denom = g.ent.denom)
    (hroom : BlockRoom g.ent.denom s s.ent.acceptedQ) (t : Int) :
    ∃ s', beginBlock Facts.beginBlockSteps { s with time := t } = .ok s' := by
  have ha := entAll_reachable g hg s h
  exact beginBlock_succeeds g.ent.denom hD s t ⟨ha.str, ha.book, ha.books, ordersOK_reachable g s h, hq⟩ hroom

/-- the tally alone never panics, whatever the parameters are (no assumption beyond the order-id counter) -/
theorem c14_tally_never_panics (g : GenCfg) (s : State) (h : FineReach g EntQ s) (now : Nat) :
    ∃ e, s.ent.tally now = .ok e :=
  tally_succeeds s.ent now (bookInv_reachable g s h)

/-- EndBlock (governance-executed messages: each all-or-nothing) and Commit are total functions of the model -/
theorem c14_end_block_and_commit_total (n : Node) (wall : Nat) (govs : List (List Msg)) :
    ∃ n' rs, n.endBlock wall govs = (n', rs) ∧ ∃ n'', n'.commit = n'' := ⟨_, _, rfl, _, rfl⟩

/-- what the ante chain leaves alone: orders, queues, whitelist, registrations, records, limits,
streams, all parameters, grants, allowances and the block time are those of the state before.  The bank
and the enterprise locked/spent books are not constrained here (what the ante chain does to them — fee
deduction, fee unlock — is `AnteEffect` in Lemmas/Chain). -/
def AnteOnly (s s1 : State) : Prop :=
  s1.wrk = s.wrk ∧ s1.bcn = s.bcn ∧ s1.str = s.str ∧ s1.ent.book = s.ent.book ∧ s1.grants = s.grants ∧
  s1.allowances = s.allowances ∧ s1.time = s.time

theorem anteOnly_refl (s : State) : AnteOnly s s := ⟨rfl, rfl, rfl, rfl, rfl, rfl, rfl⟩

theorem anteOnly_trans (a b c : State) (h1 : AnteOnly a b) (h2 : AnteOnly b c) : AnteOnly a c := by
  obtain ⟨p1, p2, p3, p4, p5, p6, p7⟩ := h1
  obtain ⟨q1, q2, q3, q4, q5, q6, q7⟩ := h2
  exact ⟨q1.trans p1, q2.trans p2, q3.trans p3, q4.trans p4, q5.trans p5, q6.trans p6, q7.trans p7⟩

theorem ante_anteOnly {order : List String} {mode : Mode} {s s1 : State} {tx : Tx} (h : ante order mode s tx = .ok s1) :
    AnteOnly s s1 :=
  ante_rel AnteOnly anteOnly_refl anteOnly_trans (by
    intro a b he
    cases he with
    | none hs => subst hs; exact anteOnly_refl _
    | unlock payer x _ _ _ hx hs => subst hs; exact ⟨rfl, rfl, rfl, unlockForFees_book hx, rfl, rfl, rfl⟩
    | deduct _ _ _ _ _ _ hs => subst hs; exact ⟨rfl, rfl, rfl, rfl, rfl, rfl, rfl⟩) h

/-- **Failed transactions change nothing; multi-message transactions are all-or-nothing.**  For every
transaction the state after `DeliverTx` is one of exactly three:
(1) the state before, untouched — when stateless validation or any ante decorator fails (error or panic);
(2) the ante state — when the ante chain passed but some message (the k-th, for any k) failed by error
    or by panic: NONE of the messages' effects is kept, and the ante state agrees with the state before
    on everything but the bank and the enterprise locked/spent books (`AnteOnly`);
(3) the state after ALL messages — only when the outcome is ok. -/
theorem c14_failed_tx_changes_nothing_and_multimsg_atomic (wall : Nat) (s : State) (tx : Tx) :
    ((deliverTx Facts.anteOrder wall s tx).2.outcome ≠ .ok →
      (deliverTx Facts.anteOrder wall s tx).1 = s ∨
      (∃ s1, ante Facts.anteOrder .deliver s tx = .ok s1 ∧ (deliverTx Facts.anteOrder wall s tx).1 = s1 ∧ AnteOnly s s1 ∧
        ∃ e, runMsgs wall s1 tx.msgs = .error e)) ∧
    ((deliverTx Facts.anteOrder wall s tx).2.outcome = .ok →
      ∃ s1 rs, ante Facts.anteOrder .deliver s tx = .ok s1 ∧
        runMsgs wall s1 tx.msgs = .ok ((deliverTx Facts.anteOrder wall s tx).1, rs)) := by
  rw [deliverTx_eq]
  cases h : preExec Facts.anteOrder .deliver s tx with
  | error e => exact ⟨fun _ => Or.inl rfl, fun h => absurd h (Outcome.ofErr_ne_ok e)⟩
  | ok s1 =>
    have h1 := preExec_ante h
    dsimp only
    cases h2 : runMsgs wall s1 tx.msgs with
    | error e =>
      exact ⟨fun _ => Or.inr ⟨s1, h1, rfl, ante_anteOnly h1, e, h2⟩, fun h => absurd h (Outcome.ofErr_ne_ok e)⟩
    | ok x => exact ⟨fun h => absurd rfl h, fun _ => ⟨s1, x.2, h1, h2⟩⟩

/-- the messages of a transaction run on top of one another and fail as a whole: if the k-th message
fails, `runMsgs` fails (there is no partial result to keep) -/
theorem c14_runMsgs_fails_if_any_message_fails (wall : Nat) (s : State) (pre : List Msg) (m : Msg) (post : List Msg)
    (s1 : State) (rs : List Resp) (hpre : runMsgs wall s pre = .ok (s1, rs)) (e : Err) (hm : handle wall s1 m = .error e) :
    runMsgs wall s (pre ++ m :: post) = .error e := runMsgs_error hpre hm

/-- **A proposal's message batch applies as a whole or not at all**, and that is true of every proposal executed in an
EndBlock, one after another: the state after the proposals `govs` is the state reached by folding, in order, over the ones
that PASSED only — a proposal that failed (wrong signer, or any message failing after earlier ones succeeded) contributes
nothing, whatever its earlier messages had written. -/
theorem c14_failed_proposals_leave_no_trace (wall : Nat) (govs : List (List Msg)) :
    ∀ (s : State) (flags : List Bool),
      (govs.foldl (fun (acc : State × List Bool) ms =>
        let (s', ok) := govExecAll wall acc.1 ms
        (s', acc.2 ++ [ok])) (s, flags)).1 =
      (govs.foldl (fun (st : State) ms =>
        if (govExecAll wall st ms).2 = true then (govExecAll wall st ms).1 else st) s) := by
  induction govs with
  | nil => intro s flags; rfl
  | cons ms rest ih =>
    intro s flags
    simp only [List.foldl_cons]
    -- a failed proposal has left the state as it was
    have hstep : (if (govExecAll wall s ms).2 = true then (govExecAll wall s ms).1 else s) = (govExecAll wall s ms).1 := by
      split
      · rfl
      · exact (govExecAll_failed (Bool.eq_false_iff.mpr ‹_›)).symm
    rw [hstep]
    exact ih _ _

/-- the same for the node the driver runs: the working state after `EndBlock` is the fold over the passed proposals, and
when every proposal of the block is one that fails in every state it is the working state before (what the
`failed-batch-changes-nothing` oracle demands of the real application). -/
theorem c14_end_block_of_failed_proposals_is_identity (n : Node) (wall : Nat) (govs : List (List Msg)) :
    (n.endBlock wall govs).1.working =
      (govs.foldl (fun (st : State) ms =>
        if (govExecAll wall st ms).2 = true then (govExecAll wall st ms).1 else st) n.working) ∧
    ((∀ ms ∈ govs, ∀ st, (govExecAll wall st ms).2 = false) → (n.endBlock wall govs).1.working = n.working) := by
  have h1 : (n.endBlock wall govs).1.working =
      (govs.foldl (fun (st : State) ms =>
        if (govExecAll wall st ms).2 = true then (govExecAll wall st ms).1 else st) n.working) := by
    have := c14_failed_proposals_leave_no_trace wall govs n.working []
    simpa [Node.endBlock] using this
  refine ⟨h1, ?_⟩
  intro hall
  rw [h1]
  clear h1
  generalize n.working = w
  induction govs generalizing w with
  | nil => rfl
  | cons ms rest ih =>
    simp only [List.foldl_cons]
    rw [hall ms List.mem_cons_self w]
    simp only [Bool.false_eq_true, if_false]
    exact ih (fun ms' hm st => hall ms' (List.mem_cons_of_mem _ hm) st) w

-- non-vacuity of the premise above: a proposal that fails in every state (its message is not signed by the gov account)
example : ∀ st, (govExecAll 0 st [Msg.strParams (AddrTok.ok 5 false) 0]).2 = false := by
  intro st
  simp [govExecAll, Msg.signer_eq, AddrTok.decode, Mgov]

-- the bound of `BlockRoom`, written out
example : (2 : Int) ^ 255 = 57896044618658097711785492504343953926634992332820282019728792003956564819968 := two255

def hAccepted : State := dBegin dDecided 1700000010

def hChanged : State :=
  (govExec 0 hAccepted (.entParams (.ok Mgov false) { dGen.ent with denom := "atoken" })).1

/-- **known finding halt/B-denom-change, negation witness.**  With an accepted order waiting for completion,
a governance change of the enterprise denomination makes `BeginBlock` fail at the next block time (`isOk = false`;
evaluated, the error is the panic of `Coin.Add` on `atoken` and `nund`) — and again at a later one, the order staying
queued; without the change the same block completes the order.  `c14_begin_block_never_panics` excludes such histories
by `BooksQ`. -/
theorem c14_denom_change_halts :
    hAccepted.ent.acceptedQ = [1] ∧ hChanged.ent.params.denom = "atoken" ∧
    (beginBlock Facts.beginBlockSteps { hAccepted with time := 1700000015 * nsPerSec }).isOk = true ∧
    (beginBlock Facts.beginBlockSteps { hChanged with time := 1700000015 * nsPerSec }).isOk = false ∧
    (beginBlock Facts.beginBlockSteps { hChanged with time := 1700000020 * nsPerSec }).isOk = false := by
  decide +kernel

def oDecided : State :=
  [dTx 3 (.entRaise (.ok 3 false) (2 ^ 255) "nund"), dTx 3 (.entRaise (.ok 3 false) (2 ^ 255) "nund"),
   dTx 0 (.entDecide 1 2 (.ok 0 false)), dTx 1 (.entDecide 1 2 (.ok 1 false)),
   dTx 0 (.entDecide 2 2 (.ok 0 false)), dTx 1 (.entDecide 2 2 (.ok 1 false))].foldl
    (fun s tx => (deliverTx Facts.anteOrder 0 s tx).1) { initState dGen with time := 1700000005 * nsPerSec }

/-- **known finding halt/B-int-overflow, negation witness.**  Two accepted orders of 2^255 nund: completing the
second overflows the bank's 256-bit supply integer and `BeginBlock` fails (`isOk = false`; evaluated, the error is the
panic `Int overflow`).  `BlockRoom` excludes it. -/
theorem c14_orders_overflow_halts :
    (dBegin oDecided 1700000010).ent.acceptedQ = [1, 2] ∧
    (beginBlock Facts.beginBlockSteps { dBegin oDecided 1700000010 with time := 1700000015 * nsPerSec }).isOk = false := by
  decide +kernel

end C14
end Mainchain
