import Mainchain.Lemmas.RegImport
import Mainchain.Lemmas.EntCanon
import Mainchain.Lemmas.Witness
import Mainchain.Lemmas.RegistryReach
/-
C15 — Genesis export and import are lossless.

`Genesis.exportImport order s` models `ExportAppStateAndValidators` on state `s` followed by `InitChain`
on a fresh application whose module manager initialises the modules in `order` — the list regenerated
from `genesisModuleOrder` in app/app.go on every run — with the crisis module asserting the registered
invariants of the enterprise and stream modules (`entInvariantOk`, `strInvariantOk`; those the SDK's own
modules register are not in the model) on what has been imported when its turn comes.

`FineReach g (BooksQ g.ent.denom) s` : `s` is any state of any run from the scenario genesis `g` along which
the bank's vesting arithmetic is sane, the order-id counter has not wrapped and governance has not changed the
enterprise denomination (history assumption `BooksQ`, as in C04); `hq` says the last of `s` itself, and
`c15_denom_change_breaks_import` is why.  The registry statements add `RegQ`: no 64-bit counter of the WRKChain
and BEACON modules has wrapped.  "Every state of every run" is meant under these assumptions in this file.
-/
namespace Mainchain
namespace C15
open AL Bank Genesis

/-- the genesis order of the repository: every module whose registered invariant depends on the bank's
balances (enterprise, stream) is initialised before crisis, and bank before them -/
theorem c15_genesis_order :
    Facts.initGenesisOrder = ["capability", "auth", "bank", "distribution", "staking", "slashing", "gov", "enterprise", "stream",
      "crisis", "ibc", "genutil", "evidence", "authz", "transfer", "feegrant", "group", "params", "upgrade", "vesting", "consensus",
      "enterprise", "beacon", "wrkchain"] := rfl

/-- the repository's genesis order with the module names resolved: the `InitGenesis` steps the model looks at.
Stated once because resolving the 24 names is the dear part of evaluating `exportImport` on a concrete state. -/
theorem exportImport_repo (s : State) : exportImport Facts.initGenesisOrder s =
    ([GStep.bank, .gov, .enterprise, .stream, .crisis, .enterprise, .beacon, .wrkchain].foldlM (importStep s) (blank s, [])) >>=
      fun r => pure r.1 := by
  unfold exportImport
  rw [show (Facts.initGenesisOrder.map gstepOf).filter (· ≠ .other) =
    [.bank, .gov, .enterprise, .stream, .crisis, .enterprise, .beacon, .wrkchain] by simp [Facts.initGenesisOrder, gstepOf]]

/-- **Import succeeds.**  For every state of every run (as the header says: the enterprise denomination is
the genesis one throughout, `BooksQ` and `hq`) in which nobody has sent coins to the gov module
account (known finding: the SDK's gov genesis refuses such a balance), exporting and initialising a fresh
chain from the export succeeds: the enterprise and stream balance checks of `InitGenesis` pass and the
enterprise and stream invariants asserted by crisis during `InitChain` hold.  The result is given explicitly. -/
theorem c15_import_succeeds (g : GenCfg) (hg : GenBooksValid g) (s : State) (h : FineReach g (BooksQ g.ent.denom) s)
    (hq : s.ent.params.denom = g.ent.denom) (hgov : (s.bank.allBalances Mgov).isEmpty = true) :
    exportImport Facts.initGenesisOrder s =
      .ok { bank := s.bank, ent := importEnt s.ent, wrk := importReg s.wrk, bcn := importReg s.bcn, str := s.str,
            grants := s.grants, allowances := s.allowances, time := s.time } := by
  have ha := entAll_reachable g hg s h
  have h1 : balancesEqCoin s.bank Ment s.ent.totalLocked = true :=
    balancesEqCoin_of_pointwise _ _ _ (fun d => by rw [ha.books.escrow d, ha.books.totL])
  have h2 : ∀ (e : EntState) (w b : RegState),
      strInvariantOk { bank := s.bank, ent := e, wrk := w, bcn := b, str := s.str, grants := s.grants, allowances := s.allowances, time := s.time } = true :=
    fun _ _ _ => strInvariantOk_of_backed _ ha.str.backed
  have h3 : ∀ (w b : RegState) (st : StreamState),
      entInvariantOk { bank := s.bank, ent := importEnt s.ent, wrk := w, bcn := b, str := st, grants := s.grants, allowances := s.allowances, time := s.time } = true :=
    fun _ _ _ => entInvariantOk_of_books g.ent.denom _ hq ha.books.nodupL ha.books.okL ha.books.totL ha.books.escrow ha.books.sumL
  have h1' : balancesEqCoin s.bank Ment (importEnt s.ent).totalLocked = true := h1
  have hc : ([] ++ [GStep.bank] ++ [GStep.gov] ++ [GStep.enterprise] ++ [GStep.stream]).contains GStep.enterprise = true := by decide
  rw [exportImport_repo]
  simp only [List.foldlM_cons, List.foldlM_nil, importStep, blank, bind, Except.bind, pure, Except.pure,
    require, hgov, h1', h2, h3, hc, if_true]

/-- **The enterprise section is identical.**  Orders are stored by ascending id and the whitelist ascending in
every state of every run, and the import rebuilds both in that order: the imported enterprise state is the
*same value* as the exported one (not merely observably equal), and so are the bank, the stream section and —
copied by the model's fresh application `Genesis.blank`, no authz or feegrant genesis import being modelled — the
authorisations, the fee allowances and the block time.  Every later transaction that does not read the
WRKChain / BEACON sections therefore has literally the same effect on both chains. -/
theorem c15_enterprise_identical (g : GenCfg) (hg : GenBooksValid g) (s : State) (h : FineReach g (BooksQ g.ent.denom) s)
    (hq : s.ent.params.denom = g.ent.denom) (hgov : (s.bank.allBalances Mgov).isEmpty = true) :
    exportImport Facts.initGenesisOrder s = .ok { s with wrk := importReg s.wrk, bcn := importReg s.bcn } := by
  rw [c15_import_succeeds g hg s h hq hgov]
  obtain ⟨hb, hc⟩ := canon_reachable g s (h.weaken (fun _ hq => hq.2.1))
  rw [importEnt_eq s.ent hb hc]

/-- **Lossless for enterprise, stream and bank.**  After the import the bank (balances, supply, vesting
records, accounts), the stream section (every stream and the validator fee), the authorisations and fee
allowances and the block time (these three copied by `Genesis.blank`, their genesis import is not modelled)
are identical, and the enterprise section is observably identical: parameters,
the order-id counter, every purchase order, both queues (rebuilt from the order statuses — an order caught
in raised or accepted status is queued again), the whitelist, the locked / spent books and both totals. -/
theorem c15_enterprise_stream_bank_lossless (g : GenCfg) (hg : GenBooksValid g) (s : State) (h : FineReach g (BooksQ g.ent.denom) s)
    (hq : s.ent.params.denom = g.ent.denom) (hgov : (s.bank.allBalances Mgov).isEmpty = true) :
    ∃ s', exportImport Facts.initGenesisOrder s = .ok s' ∧
      s'.bank = s.bank ∧ s'.str = s.str ∧ s'.grants = s.grants ∧ s'.allowances = s.allowances ∧ s'.time = s.time ∧
      s'.ent.params = s.ent.params ∧ s'.ent.nextId = s.ent.nextId ∧
      (∀ id, find? s'.ent.orders id = find? s.ent.orders id) ∧
      (∀ id, id ∈ s'.ent.raisedQ ↔ id ∈ s.ent.raisedQ) ∧ (∀ id, id ∈ s'.ent.acceptedQ ↔ id ∈ s.ent.acceptedQ) ∧
      (∀ a, a ∈ s'.ent.whitelist ↔ a ∈ s.ent.whitelist) ∧
      s'.ent.locked = s.ent.locked ∧ s'.ent.spent = s.ent.spent ∧
      s'.ent.totalLocked = s.ent.totalLocked ∧ s'.ent.totalSpent = s.ent.totalSpent :=
  ⟨_, c15_enterprise_identical g hg s h hq hgov, rfl, rfl, rfl, rfl, rfl, rfl, rfl, fun _ => rfl,
    fun _ => Iff.rfl, fun _ => Iff.rfl, fun _ => Iff.rfl, rfl, rfl, rfl, rfl⟩

theorem regAll_both (g : GenCfg) (hr : GenRegValid g) (s : State)
    (h : FineReach g (fun s => BooksQ g.ent.denom s ∧ RegQ s) s) : RegAll s.wrk ∧ RegAll s.bcn :=
  ⟨(wrkAll_reachable g hr s (h.weaken fun _ hq => hq.2)).1, (bcnAll_reachable g hr s (h.weaken fun _ hq => hq.2)).1⟩

/-- **The WRKChain and BEACON sections, entry by entry.**  After the import each registry has the same
parameters and id counter, every registration with its owner, moniker, name, hashes, registration time and last
height / id, the stored limit of every registration, and exactly the newest 20,000 records of every
registration; the two counters of a registration (number in state, lowest in state) are recomputed from those
records. -/
theorem c15_registries_newest (g : GenCfg) (hg : GenBooksValid g) (hr : GenRegValid g) (s : State)
    (h : FineReach g (fun s => BooksQ g.ent.denom s ∧ RegQ s) s)
    (hq : s.ent.params.denom = g.ent.denom) (hgov : (s.bank.allBalances Mgov).isEmpty = true) :
    ∃ s', exportImport Facts.initGenesisOrder s = .ok s' ∧ RegNewest s.wrk s'.wrk ∧ RegNewest s.bcn s'.bcn := by
  obtain ⟨hw, hb⟩ := regAll_both g hr s h
  exact ⟨_, c15_enterprise_identical g hg s (h.weaken (fun _ hq => hq.1)) hq hgov,
    importReg_newest s.wrk hw.reg hw.canon, importReg_newest s.bcn hb.reg hb.canon⟩

/-- **Lossless registries.**  When no registration retains more than 20,000 records (always the case when the
maximum storage limit parameter has never exceeded 20,000) nothing is dropped and the recomputed counters are the stored
ones: every point read of the imported WRKChain and BEACON sections — parameters, id counter, registration,
limit, record — answers exactly as before the export. -/
theorem c15_registries_lossless (g : GenCfg) (hg : GenBooksValid g) (hr : GenRegValid g) (s : State)
    (h : FineReach g (fun s => BooksQ g.ent.denom s ∧ RegQ s) s)
    (hq : s.ent.params.denom = g.ent.denom) (hgov : (s.bank.allBalances Mgov).isEmpty = true)
    (hcw : ∀ id, (s.wrk.retained id).length ≤ exportCap) (hcb : ∀ id, (s.bcn.retained id).length ≤ exportCap) :
    ∃ s', exportImport Facts.initGenesisOrder s = .ok s' ∧ s'.ent = s.ent ∧ s'.bank = s.bank ∧ s'.str = s.str ∧
      RegSame s.wrk s'.wrk ∧ RegSame s.bcn s'.bcn := by
  obtain ⟨hw, hb⟩ := regAll_both g hr s h
  exact ⟨_, c15_enterprise_identical g hg s (h.weaken (fun _ hq => hq.1)) hq hgov, rfl, rfl, rfl,
    importReg_same s.wrk hw hcw, importReg_same s.bcn hb hcb⟩

/-- **Export followed by import is the identity.**  Every section of the model state is stored in the order the
store iterates it — orders, registrations and limits by ascending id, records by ascending store key, the
whitelist ascending — in every state of every run; the import rebuilds exactly that order.  When no registration
retains more than 20,000 records the imported chain is therefore in the *same state* as the exported one … -/
theorem c15_export_import_identity (g : GenCfg) (hg : GenBooksValid g) (hr : GenRegValid g) (s : State)
    (h : FineReach g (fun s => BooksQ g.ent.denom s ∧ RegQ s) s)
    (hq : s.ent.params.denom = g.ent.denom) (hgov : (s.bank.allBalances Mgov).isEmpty = true)
    (hcw : ∀ id, (s.wrk.retained id).length ≤ exportCap) (hcb : ∀ id, (s.bcn.retained id).length ≤ exportCap) :
    exportImport Facts.initGenesisOrder s = .ok s := by
  obtain ⟨hw, hb⟩ := regAll_both g hr s h
  rw [c15_enterprise_identical g hg s (h.weaken (fun _ hq => hq.1)) hq hgov, importReg_eq s.wrk hw hcw, importReg_eq s.bcn hb hcb]

/-- … **so the same subsequent transactions, blocks and governance proposals have the same effects on both
chains**, and exporting again gives the identical document: whatever is computed from the imported state is
computed from the exported one. -/
theorem c15_same_future (g : GenCfg) (hg : GenBooksValid g) (hr : GenRegValid g) (s : State)
    (h : FineReach g (fun s => BooksQ g.ent.denom s ∧ RegQ s) s)
    (hq : s.ent.params.denom = g.ent.denom) (hgov : (s.bank.allBalances Mgov).isEmpty = true)
    (hcw : ∀ id, (s.wrk.retained id).length ≤ exportCap) (hcb : ∀ id, (s.bcn.retained id).length ≤ exportCap) :
    ∃ s', exportImport Facts.initGenesisOrder s = .ok s' ∧
      (∀ wall tx, deliverTx Facts.anteOrder wall s' tx = deliverTx Facts.anteOrder wall s tx) ∧
      (∀ tx, checkTx Facts.anteOrder s' tx = checkTx Facts.anteOrder s tx) ∧
      (∀ t, beginBlock Facts.beginBlockSteps { s' with time := t } = beginBlock Facts.beginBlockSteps { s with time := t }) ∧
      (∀ wall msgs, govExecAll wall s' msgs = govExecAll wall s msgs) ∧
      exportImport Facts.initGenesisOrder s' = exportImport Facts.initGenesisOrder s :=
  ⟨s, c15_export_import_identity g hg hr s h hq hgov hcw hcb, fun _ _ => rfl, fun _ => rfl, fun _ => rfl, fun _ _ => rfl, rfl⟩

/-- the enterprise section is imported twice (it is listed twice in the genesis order): the second import
changes nothing, because the import is a function of the exported document alone -/
theorem c15_double_enterprise_import_idempotent (exp : State) (acc : State × List GStep)
    (h1 : balancesEqCoin acc.1.bank Ment (importEnt exp.ent).totalLocked = true) :
    ∃ acc1 acc2, importStep exp acc .enterprise = .ok acc1 ∧ importStep exp acc1 .enterprise = .ok acc2 ∧ acc2.1 = acc1.1 := by
  refine ⟨({ acc.1 with ent := importEnt exp.ent }, acc.2 ++ [.enterprise]), ({ acc.1 with ent := importEnt exp.ent }, acc.2 ++ [.enterprise] ++ [.enterprise]), ?_, ?_, rfl⟩ <;>
    simp [importStep, h1, require, bind, Except.bind, pure, Except.pure]

def wGen : GenCfg :=
  { timeSec := 1700000000,
    accts := [{ id := 0, exists_ := true, balance := [{ denom := "nund", amt := 1000000 }], vest := none },
              { id := 1, exists_ := true, balance := [{ denom := "nund", amt := 1000000 }], vest := none }],
    ent := { denom := "nund", minAccepts := 1, decisionLimit := 30, signers := [.ok 0 false] },
    wrk := { denom := "nund", feeReg := 24, feeRec := 2, feeBuy := 2, defLimit := 3, maxLimit := 6 },
    bcn := { denom := "nund", feeReg := 24, feeRec := 2, feeBuy := 2, defLimit := 3, maxLimit := 6 } }

def wState : State :=
  (deliverTx Facts.anteOrder 0 { initState wGen with time := 1700000005 * nsPerSec }
    { signers := [0], granter := none, fee := [], sig := .ok, msgs := [.strCreate (.ok 1 false) (.ok 0 false) 6000 "nund" 1] }).1

/-- a genesis order that initialises the stream module after crisis (as the repository did before the
repair) makes the import of any state holding a stream deposit panic: the negation witness of the
repaired defect, kept as a regression theorem on a concrete state -/
theorem c15_stream_after_crisis_panics :
    (exportImport ["bank", "gov", "enterprise", "crisis", "enterprise", "beacon", "wrkchain", "stream"] wState).isOk = false ∧
    (exportImport Facts.initGenesisOrder wState).isOk = true := by
  rw [exportImport_repo]
  decide +kernel

/- the conclusion of the registry statements evaluated on a concrete state (built with `deliverTx`; no hypothesis
of the theorems is instantiated): a WRKChain that retains its newest three of four records (limit 3) and a BEACON
with two timestamps; the import succeeds and every registration and record of both, and every WRKChain limit, is
read back unchanged -/
def rTx (_n : Nat) (fee : Int) (m : Msg) : Tx :=
  { signers := [0], granter := none, fee := (if fee = 0 then [] else [{ denom := "nund", amt := fee }]), sig := .ok, msgs := [m] }

def rRec (h : String) : Rec := { key := 0, h0 := h, h1 := "", h2 := "", h3 := "", h4 := "", subTime := 0 }

def rState : State :=
  [rTx 1 24 (.regReg .wrk "mon" "name" "gen" "geth" (.ok 0 false)),
   rTx 2 24 (.regReg .bcn "mon" "name" "" "" (.ok 0 false)),
   rTx 3 2 (.regRec .wrk 1 1 (rRec "a") (.ok 0 false)), rTx 4 2 (.regRec .wrk 1 2 (rRec "b") (.ok 0 false)),
   rTx 5 2 (.regRec .wrk 1 5 (rRec "c") (.ok 0 false)), rTx 6 2 (.regRec .wrk 1 9 (rRec "d") (.ok 0 false)),
   rTx 7 2 (.regRec .bcn 1 0 { rRec "x" with subTime := 1700000005 } (.ok 0 false)), rTx 8 2 (.regRec .bcn 1 0 { rRec "y" with subTime := 1700000005 } (.ok 0 false))].foldl
    (fun s tx => (deliverTx Facts.anteOrder 0 s tx).1) { initState wGen with time := 1700000005 * nsPerSec }

def rCheck : Bool :=
  decide (keys rState.wrk.recs = [(1, 2), (1, 5), (1, 9)]) && decide (keys rState.bcn.recs = [(1, 1), (1, 2)]) &&
  (match exportImport Facts.initGenesisOrder rState with
   | .ok s' => decide (s'.ent.orders = rState.ent.orders) && decide (s'.wrk.regs = rState.wrk.regs) && decide (s'.wrk.limits = rState.wrk.limits) &&
       decide (s'.wrk.recs = rState.wrk.recs) && decide (s'.bcn.regs = rState.bcn.regs) && decide (s'.bcn.recs = rState.bcn.recs)
   | .error _ => false)

example : rCheck = true := by
  unfold rCheck; rw [exportImport_repo]; decide +kernel

/-- **known finding (same root cause as C14 halt/B-denom-change), negation witness.**  An order is raised,
accepted by two of three signers, tallied and completed (777 nund locked); governance then changes the enterprise
denomination to `atoken`.  The books stay in `nund`: the export of that state cannot be imported — the statement
says only that the result is not `.ok`; in the model it is crisis's assertion of the enterprise invariant
(`entInvariantOk`) that panics — while the same history without the parameter change imports
fine.  The theorems above exclude such histories by `BooksQ` (the denomination is the genesis one). -/
def dChanged : State :=
  (govExec 0 dLocked (.entParams (.ok Mgov false) { dGen.ent with denom := "atoken" })).1

theorem c15_denom_change_breaks_import :
    dLocked.ent.totalLocked = { denom := "nund", amt := 777 } ∧ dChanged.ent.params.denom = "atoken" ∧
    (exportImport Facts.initGenesisOrder dLocked).isOk = true ∧
    (exportImport Facts.initGenesisOrder dChanged).isOk = false := by
  rw [exportImport_repo, exportImport_repo]
  decide +kernel

/-- the export cap of the model is the source's, in both modules -/
theorem c15_limits_from_source :
    AL.find? Facts.limits "wrkchain.MaxBlockSubmissionsKeepInState" = some exportCap ∧
    AL.find? Facts.limits "beacon.MaxHashSubmissionsToExport" = some exportCap := by
  simp [Facts.limits, AL.find_cons_self, AL.find_cons_ne, exportCap]

end C15
end Mainchain
