import Mainchain.Lemmas.ParamsInv
/-
C16 — Module parameters are always valid and take effect as soon as changed.
The validity rules are written here from the *statement* (`…Spec`), and `validate` (the model of the
code's `Params.Validate`, compared with the real one by `vpure` on every run) is shown to imply them.
-/
namespace Mainchain
namespace C16
open AL

/-- validity rules of the enterprise parameters as the property states them; the signers are counted as
listed, so two spellings of one address count as two -/
def EntSpec (p : EntParams) : Prop :=
  validDenom p.denom = true ∧ 1 ≤ p.minAccepts ∧ 1 ≤ p.decisionLimit ∧
  (∀ t ∈ p.signers, ∃ a, t.decode = some a) ∧ p.minAccepts ≤ p.signers.length ∧ 1 ≤ p.signers.length

/-- validity rules of the WRKChain / BEACON parameters -/
def RegSpec (p : RegParams) : Prop :=
  validDenom p.denom = true ∧ 1 ≤ p.feeReg ∧ 1 ≤ p.feeRec ∧ 1 ≤ p.feeBuy ∧ 1 ≤ p.defLimit ∧ 1 ≤ p.maxLimit ∧
  p.defLimit ≤ p.maxLimit

/-- validator fee within [0,1] (18-decimal fixed point) -/
def StrSpec (fee : Int) : Prop := 0 ≤ fee ∧ fee ≤ (pow18 : Int)

/-- `Validate` of the enterprise parameters is the validity rules, and the test for a blank denomination the code makes
first.  (The code asks for a signer list other than `[""]`; the rules ask that every signer decodes.) -/
theorem ent_validate_iff (p : EntParams) : p.validate = true ↔ isBlank p.denom = false ∧ EntSpec p := by
  simp only [EntParams.validate, EntSpec, Bool.and_eq_true, Bool.not_eq_true', decide_eq_true_eq, decide_eq_false_iff_not,
    List.all_eq_true, Nat.not_lt, Option.isSome_iff_exists, Nat.one_le_iff_ne_zero, and_assoc]
  refine and_congr_right fun _ => and_congr_right fun _ => and_congr_right fun hm => and_congr_right fun _ => ?_
  constructor
  · intro ⟨_, hall, hlen⟩
    exact ⟨hall, hlen, by omega⟩
  · intro ⟨hall, hlen, _⟩
    refine ⟨fun he => ?_, hall, hlen⟩
    obtain ⟨a, ha⟩ := hall AddrTok.empty (by rw [he]; exact List.mem_singleton.mpr rfl)
    cases ha

theorem reg_validate_iff (p : RegParams) : p.validate = true ↔ isBlank p.denom = false ∧ RegSpec p := by
  simp only [RegParams.validate, RegSpec, Bool.and_eq_true, Bool.not_eq_true', decide_eq_true_eq, Nat.one_le_iff_ne_zero,
    and_assoc]

theorem c16_str_validate_exact (fee : Int) : streamParamsValid fee = true ↔ StrSpec fee := by
  simp [streamParamsValid, StrSpec]

theorem c16_ent_validate_sound (p : EntParams) (h : p.validate = true) : EntSpec p := ((ent_validate_iff p).mp h).2

theorem c16_reg_validate_sound (p : RegParams) (h : p.validate = true) : RegSpec p := ((reg_validate_iff p).mp h).2

theorem c16_str_validate_sound (fee : Int) (h : streamParamsValid fee = true) : StrSpec fee :=
  (c16_str_validate_exact fee).mp h

/-- **the rules and nothing but the rules**: for a denomination that is not blank (the extra test the code makes first),
`Validate` accepts a WRKChain/BEACON parameter set exactly when it satisfies the validity rules the property lists — so the
soundness theorems above are not about a checker that merely rejects more -/
theorem c16_reg_validate_exact (p : RegParams) (hb : isBlank p.denom = false) : p.validate = true ↔ RegSpec p :=
  (reg_validate_iff p).trans (and_iff_right hb)

theorem c16_ent_validate_exact (p : EntParams) (hb : isBlank p.denom = false) : p.validate = true ↔ EntSpec p :=
  (ent_validate_iff p).trans (and_iff_right hb)

/-- The stored parameters of the enterprise, WRKChain, BEACON and stream modules satisfy their
validity rules in every state of every run (any history of transactions, nested messages,
governance proposals and block hooks).  (`GenGrantsOK`: the genesis document contains no authz grant given by a module
account of the application — such a grant would let its grantee act as that module.) -/
theorem c16_params_always_valid (g : GenCfg) (hg : GenParamsValid g) (hgg : GenGrantsOK g) (s : State) (h : Reachable g s) :
    EntSpec s.ent.params ∧ RegSpec s.wrk.params ∧ RegSpec s.bcn.params ∧ StrSpec s.str.fee := by
  have hp := paramsValid_reachable g hg hgg s h
  exact ⟨c16_ent_validate_sound _ hp.ent, c16_reg_validate_sound _ hp.wrk, c16_reg_validate_sound _ hp.bcn,
    c16_str_validate_sound _ hp.str⟩

/-- An update with any invalid field is rejected as a whole: the handlers fail (so nothing is
stored) unless the complete new parameter set validates, and the authority is the gov module. -/
theorem c16_invalid_update_rejected (wall : Nat) (s s' : State) (r : Resp) (auth : AddrTok) :
    (∀ p, execMsg wall s (.entParams auth p) = .ok (s', r) → p.validate = true ∧ auth = AddrTok.canon Mgov ∧ s'.ent.params = p) ∧
    (∀ k p, execMsg wall s (.regParams k auth p) = .ok (s', r) → p.validate = true ∧ auth = AddrTok.canon Mgov ∧ (s'.reg k).params = p) ∧
    (∀ fee, execMsg wall s (.strParams auth fee) = .ok (s', r) → streamParamsValid fee = true ∧ auth = AddrTok.canon Mgov ∧ s'.str.fee = fee) := by
  refine ⟨fun p h => ?_, fun k p h => ?_, fun fee h => ?_⟩
  · cases execMsg_ok h with
    | entParams ha hx => obtain ⟨hv, rfl⟩ := EntState.setParams_ok hx; exact ⟨hv, ha, rfl⟩
  · cases execMsg_ok h with
    | regParams ha hx => obtain ⟨hv, rfl⟩ := RegState.setParams_ok hx; exact ⟨hv, ha, by cases k <;> rfl⟩
  · cases execMsg_ok h with
    | strParams ha hv => exact ⟨hv, ha, rfl⟩

/-- **A governance proposal is all or nothing.**  When it fails — its signer is not the gov module account, or any
one of its messages fails, e.g. an invalid parameter update after valid ones — the state is exactly the state
before: no parameter of an earlier message of the same proposal stays behind. -/
theorem c16_failed_proposal_changes_nothing (wall : Nat) (s : State) (msgs : List Msg) :
    (govExecAll wall s msgs).2 = false → (govExecAll wall s msgs).1 = s :=
  govExecAll_failed

theorem c16_proposal_with_failing_message_fails (wall : Nat) (s : State) (pre : List Msg) (m : Msg) (post : List Msg)
    (s1 : State) (rs : List Resp) (hpre : runMsgs wall s pre = .ok (s1, rs)) (e : Err) (hm : handle wall s1 m = .error e) :
    govExecAll wall s (pre ++ m :: post) = (s, false) := by
  unfold govExecAll
  rw [runMsgs_error hpre hm]
  split <;> rfl

/-- After a successful update every fee check, limit check, quorum tally and fee split is the formula
instantiated at the new values and only the new values: the model reads the parameters from the
state at each use (no cache), so the functions below depend on the state only through `params`. -/
theorem c16_new_values_used (s : State) (p : EntParams) (q : RegParams) (k : RegKind) (now : Nat) (po : PO) (tx : Tx) :
    EntState.tallyDecision ({ s.ent with params := p }).params now po = EntState.tallyDecision p now po ∧
    expectedFee ({ s.reg k with params := q }) k tx.msgs = expectedFee { s.reg k with params := q } k tx.msgs ∧
    ({ s.reg k with params := q } : RegState).maxPurchasable = fun id =>
      (if (({ s.reg k with params := q } : RegState).limitOf id).2 = false then 0
       else if (({ s.reg k with params := q } : RegState).limitOf id).1 ≥ q.maxLimit then 0
       else q.maxLimit - (({ s.reg k with params := q } : RegState).limitOf id).1) := by
  refine ⟨rfl, rfl, ?_⟩
  funext id
  unfold RegState.maxPurchasable
  cases ({ s.reg k with params := q } : RegState).limitOf id with
  | mk l found => cases found <;> rfl

-- non-vacuity and the repaired defect: MinAccepts = 2^64-1 with one signer is now invalid
example : ({ denom := "nund", minAccepts := 18446744073709551615, decisionLimit := 30, signers := [.ok 0 false] } : EntParams).validate = false := by
  decide
example : ({ denom := "nund", minAccepts := 2, decisionLimit := 30, signers := [.ok 0 false, .ok 1 true] } : EntParams).validate = true := by
  decide

end C16
end Mainchain
