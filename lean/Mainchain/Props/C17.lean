import Mainchain.Lemmas.BankTotal
import Mainchain.Lemmas.PaginateWalk
import Mainchain.Model.Query
/-
C17 — Reported circulating supply is total supply minus locked eFUND.

`Query.supplyOf`, `Query.totalUnlocked`, `Query.entSupply`, `Query.totalSupply` are the models of the
enterprise supply queries (x/enterprise/keeper/{locked,grpc_query}.go); the route-order fact (the
enterprise REST routes are registered before the bank's) is regenerated from app.go.
-/
namespace Mainchain
namespace C17
open AL Bank Paginate

/-- **SupplyOf.**  For the enterprise (native) denomination the served figure is the bank's recorded supply
minus the total locked eFUND; for every other denomination it is the bank's recorded supply unchanged. -/
theorem c17_supply_of (s : State) (d : String) (hd : d ≠ "") :
    Query.supplyOf s d =
      if d = s.ent.params.denom then Query.coinSub? { denom := d, amt := s.bank.supplyOf d } s.ent.totalLocked
      else some { denom := d, amt := s.bank.supplyOf d } := by
  simp [Query.supplyOf, hd, Query.supplyCoin]

/-- **Locked + unlocked = total, none negative.**  In every state of every run the total locked eFUND never
exceeds the recorded supply of the enterprise denomination, so the subtraction behind `TotalUnlocked` and
`SupplyOf` succeeds (`EnterpriseSupply` makes the same one, but `Query.entSupply` with its `Uint64()`
conversions is in no statement), and the unlocked figure is non-negative and adds up with the
locked one to the bank's recorded supply. -/
theorem c17_locked_plus_unlocked_eq_total (g : GenCfg) (hg : GenBooksValid g) (hb : Balanced (initState g).bank) (s : State)
    (h : FineReach g (BooksQ g.ent.denom) s) (hq : s.ent.params.denom = g.ent.denom) :
    0 ≤ s.ent.totalLocked.amt ∧ s.ent.totalLocked.amt ≤ (s.bank.supplyOf g.ent.denom : Int) ∧
    ∃ u, Query.totalUnlocked s = some u ∧ u.denom = g.ent.denom ∧ 0 ≤ u.amt ∧
      u.amt + s.ent.totalLocked.amt = (s.bank.supplyOf g.ent.denom : Int) ∧
      Query.supplyOf s g.ent.denom = (if g.ent.denom = "" then none else some u) := by
  have ha := entAll_reachable g hg s h
  have hbal := balanced_reachable g hg hb s h
  have hesc := ha.books.escrow g.ent.denom
  simp only [if_true] at hesc
  have hle : (s.bank.balOf Ment g.ent.denom : Int) ≤ s.bank.totalOf g.ent.denom :=
    Int.ofNat_le.mpr (balOf_le_total s.bank Ment g.ent.denom)
  have hsup := hbal g.ent.denom
  have h0 : 0 ≤ s.ent.totalLocked.amt := by rw [← hesc]; exact Int.natCast_nonneg _
  have h1 : s.ent.totalLocked.amt ≤ (s.bank.supplyOf g.ent.denom : Int) := by omega
  have hne : ¬ ((s.bank.supplyOf g.ent.denom : Int) - s.ent.totalLocked.amt < 0) := by omega
  refine ⟨h0, h1, { denom := g.ent.denom, amt := (s.bank.supplyOf g.ent.denom : Int) - s.ent.totalLocked.amt }, ?_, rfl, by simp only; omega,
    by simp only; omega, ?_⟩
  · simp [Query.totalUnlocked, Query.coinSub?, Query.supplyCoin, hq, ha.books.totL, hne]
  · by_cases hd : g.ent.denom = ""
    · simp [Query.supplyOf, hd]
    · simp [Query.supplyOf, hd, hq, Query.coinSub?, Query.supplyCoin, ha.books.totL, hne]

/-- **What is subtracted is what is really locked.**  In every state of every run the figure the supply queries subtract —
the stored total — equals the sum of the per-account locked records and the balance of the enterprise escrow account:
`SupplyOf(native)` = bank supply − Σ locked records = bank supply − escrow balance. -/
theorem c17_subtracted_amount_is_really_locked (g : GenCfg) (hg : GenBooksValid g) (hb : Balanced (initState g).bank) (s : State)
    (h : FineReach g (BooksQ g.ent.denom) s) (hq : s.ent.params.denom = g.ent.denom) (hd : g.ent.denom ≠ "") :
    s.ent.totalLocked.amt = sumF coinAmt s.ent.locked ∧
    s.ent.totalLocked.amt = (s.bank.balOf Ment g.ent.denom : Int) ∧
    Query.supplyOf s g.ent.denom =
      some { denom := g.ent.denom, amt := (s.bank.supplyOf g.ent.denom : Int) - sumF coinAmt s.ent.locked } := by
  have ha := entAll_reachable g hg s h
  obtain ⟨_, _, u, hu, hud, _, hsum, hsup⟩ := c17_locked_plus_unlocked_eq_total g hg hb s h hq
  have hesc := ha.books.escrow g.ent.denom
  simp only [if_true] at hesc
  refine ⟨ha.books.sumL.symm, hesc.symm, ?_⟩
  rw [hsup, if_neg hd, ha.books.sumL]
  congr 1
  cases u with
  | mk ud ua =>
    simp only at hud hsum
    subst hud
    congr 1
    omega

/-- **TotalSupply listing.**  For any bank satisfying `BankInv` whose denominations have distinct, non-empty
key bytes (`hinj`, `hne`), paging through the supply store by key returns the bank's non-zero supply
entries, each denomination exactly once.  That the locked eFUND is removed from the enterprise denomination only
is read off `Query.totalSupply` (the transformation it applies to a page touches no other coin), not part of this
statement. -/
theorem c17_total_supply_pages (b : Bank) (hb : BankInv b) (hinj : ∀ x ∈ b.supply, ∀ y ∈ b.supply, Query.denomBytes x.1 = Query.denomBytes y.1 → x.1 = y.1)
    (hne : ∀ x ∈ b.supply, Query.denomBytes x.1 ≠ []) (L : Nat) (hL : 1 ≤ L) (hL' : L + 1 < two64) :
    ∃ pages, walkKeys (Query.supplyStore b) (fun _ _ => some true) L ((Query.supplyStore b).length + 2) [] = some pages ∧
      pages.Perm ((b.supply.filter (fun e => e.2 ≠ 0)).map (fun e => ({ denom := e.1, amt := (e.2 : Int) } : Coin))) ∧
      (pages.map (·.denom)).Nodup := by
  have hnd : ((b.supply.filter (fun e => e.2 ≠ 0)).map (·.1)).Nodup := hb.nodupSupply.sublist (List.filter_sublist.map _)
  obtain ⟨pages, hw, hp⟩ := walk_sortKV_map (b.supply.filter (fun e => e.2 ≠ 0)) (·.1) (fun e => Query.denomBytes e.1)
    (fun e => ({ denom := e.1, amt := (e.2 : Int) } : Coin)) hnd
    (fun x hx y hy => hinj x (List.mem_filter.mp hx).1 y (List.mem_filter.mp hy).1)
    (fun x hx => hne x (List.mem_filter.mp hx).1) (fun _ => true) L hL hL'
  rw [List.filter_eq_self.mpr (fun _ _ => rfl)] at hp
  refine ⟨pages, hw, hp, (hp.map (·.denom)).nodup_iff.mpr ?_⟩
  rwa [List.map_map]

/-- the enterprise REST routes are registered before the bank's, so they answer for the bank's supply
endpoints (regenerated from app.go `RegisterAPIRoutes` on every run) -/
theorem c17_enterprise_routes_win :
    Facts.apiRouteOrder.idxOf "enterprise.RegisterGRPCGatewayRoutes" < Facts.apiRouteOrder.idxOf "ModuleBasics.RegisterGRPCGatewayRoutes" ∧
    "enterprise.RegisterGRPCGatewayRoutes" ∈ Facts.apiRouteOrder ∧ "ModuleBasics.RegisterGRPCGatewayRoutes" ∈ Facts.apiRouteOrder := by
  simp [Facts.apiRouteOrder, List.idxOf_cons]

end C17
end Mainchain
