import Mainchain.Lemmas.Keys
import Mainchain.Lemmas.EntBlock
import Mainchain.Lemmas.RegistryReach
import Mainchain.Lemmas.StreamFrame
/-
C18 — Distinct entities never alias each other's storage: the key codecs are injective and keep the numeric order
(instances of the facts in Lemmas/Keys), and each handler writes only the entity its message names.
-/
namespace Mainchain
namespace C18
open Keys

/-- big-endian encoding round-trips for every 64-bit value -/
theorem c18_u64be_roundtrip (n : Nat) (h : n < 18446744073709551616) : u64beDecode (u64be n) = some n := by
  rw [u64be, u64beDecode_eq_beVal, ← u64be, beVal_u64be n h]

/-- … hence the id encoding is injective on the whole uint64 domain (incl. 0 and 2^64−1) -/
theorem c18_u64be_inj (a b : Nat) (ha : a < 18446744073709551616) (hb : b < 18446744073709551616)
    (h : u64be a = u64be b) : a = b := u64be_inj a b ha hb h

/-- single-id keys (purchase orders, both queues, registrations, storage limits) are injective -/
theorem c18_idKey_inj (p a b : Nat) (ha : a < 18446744073709551616) (hb : b < 18446744073709551616)
    (h : idKey p a = idKey p b) : a = b :=
  u64be_inj a b ha hb (List.cons.inj h).2

/-- record keys (registration id, height / timestamp id) are injective as pairs -/
theorem c18_id2Key_inj (p i h i' h' : Nat)
    (h1 : i < 18446744073709551616) (h2 : h < 18446744073709551616)
    (h3 : i' < 18446744073709551616) (h4 : h' < 18446744073709551616)
    (e : id2Key p i h = id2Key p i' h') : i = i' ∧ h = h' := by
  have := List.append_inj (List.cons.inj e).2 rfl
  exact ⟨u64be_inj i i' h1 h3 this.1, u64be_inj h h' h2 h4 this.2⟩

/-- address-keyed sections (locked, spent, whitelist) are injective -/
theorem c18_addrKey_inj (p : Nat) (a b : Bytes) (h : addrKey p a = addrKey p b) : a = b :=
  (List.cons.inj h).2

/-- keys of different sections differ, and no key of one section is matched by the scan prefix of another -/
theorem c18_sections_disjoint (p q : Nat) (hpq : p ≠ q) (x y : Bytes) : p :: x ≠ q :: y := by
  intro h; exact hpq (List.cons.inj h).1

theorem c18_scan_disjoint (p q : Nat) (hpq : p ≠ q) (y : Bytes) : isPrefix [p] (q :: y) = false := by
  simp [isPrefix, Ne.symm hpq]

/-- a per-registration record scan (`prefix ‖ id`) matches exactly the records of that registration -/
theorem c18_record_scan_exact (p i i' h : Nat)
    (h1 : i < 18446744073709551616) (h3 : i' < 18446744073709551616) :
    isPrefix (idKey p i) (id2Key p i' h) = true ↔ i = i' := by
  rw [show id2Key p i' h = idKey p i' ++ u64be h from rfl, isPrefix_append (idKey p i) (idKey p i') (u64be h) rfl]
  exact ⟨fun e => u64be_inj i i' h1 h3 (List.cons.inj e).2, fun e => e ▸ rfl⟩

/-- the section prefixes actually used by each module are pairwise distinct (regenerated table) -/
theorem c18_prefixes_distinct :
    ∀ m ∈ ["enterprise", "wrkchain", "beacon", "stream"],
      ((Facts.storePrefixes.filter (fun e => e.1 = m)).map (·.2.2)).Nodup := by
  decide

/-- every generated prefix is a single byte -/
theorem c18_prefixes_are_bytes : Facts.storePrefixes.all (fun e => e.2.2 < 256) = true := by decide

/-- store iteration order on ids is numeric order: big-endian bytes compare like the numbers -/
theorem c18_u64be_order (a b : Nat) (ha : a < 18446744073709551616) (hb : b < 18446744073709551616) :
    lexLt (u64be a) (u64be b) = true ↔ a < b := lexLt_u64be a b ha hb

/-- listing records of one registration (ids share the prefix) returns them in ascending height order -/
theorem c18_record_order (p i h h' : Nat) (hh : h < 18446744073709551616) (hh' : h' < 18446744073709551616) :
    lexLt (id2Key p i h) (id2Key p i h') = true ↔ h < h' := by
  rw [show id2Key p i h = (p :: u64be i) ++ u64be h from rfl, show id2Key p i h' = (p :: u64be i) ++ u64be h' from rfl,
    lexLt_append_left]
  exact lexLt_u64be h h' hh hh'

theorem c18_streamKey_shape (p : Nat) (r s : Bytes) (hr : 0 < r.length) (hr' : r.length ≤ 255)
    (hs : 0 < s.length) (hs' : s.length ≤ 255) :
    streamKey p r s = some (p :: r.length :: (r ++ s.length :: s)) := by
  rw [streamKey, recvKey, lengthPrefix_eq r hr hr', lengthPrefix_eq s hs hs']
  rfl

/-- a stream listed from the store is reported with exactly the receiver and sender it was created with,
for every address length from 1 to 255 -/
theorem c18_stream_key_roundtrip (p : Nat) (r s : Bytes) (hr : 0 < r.length) (hr' : r.length ≤ 255)
    (hs : 0 < s.length) (hs' : s.length ≤ 255) :
    (streamKey p r s).bind parseStreamKey = some (r, s) := by
  rw [c18_streamKey_shape p r s hr hr' hs hs']
  exact parseStreamKey_shape p r s

/-- stream keys are injective in (receiver, sender) -/
theorem c18_stream_key_inj (p : Nat) (r s r' s' : Bytes)
    (hr : 0 < r.length) (hr' : r.length ≤ 255) (hs : 0 < s.length) (hs' : s.length ≤ 255)
    (hr2 : 0 < r'.length) (hr2' : r'.length ≤ 255) (hs2 : 0 < s'.length) (hs2' : s'.length ≤ 255)
    (e : streamKey p r s = streamKey p r' s') : r = r' ∧ s = s' := by
  have h := c18_stream_key_roundtrip p r s hr hr' hs hs'
  rw [e, c18_stream_key_roundtrip p r' s' hr2 hr2' hs2 hs2'] at h
  cases h
  exact ⟨rfl, rfl⟩

/-- listing the streams of one receiver matches exactly that receiver's streams, also for receivers of
different lengths that share a byte prefix -/
theorem c18_receiver_scan_exact (p : Nat) (r r' s : Bytes)
    (hr : 0 < r.length) (hr' : r.length ≤ 255) (hr2 : 0 < r'.length) (hr2' : r'.length ≤ 255)
    (hs : 0 < s.length) (hs' : s.length ≤ 255) :
    (do let pre ← recvKey p r; let k ← streamKey p r' s; pure (isPrefix pre k)) = some true ↔ r = r' := by
  rw [c18_streamKey_shape p r' s hr2 hr2' hs hs', recvKey, lengthPrefix_eq r hr hr', ← isPrefix_lp p r r' (s.length :: s)]
  exact ⟨Option.some.inj, congrArg some⟩

/-- an over-long receiver address is rejected by the builder (panic in `MustLengthPrefix`) -/
theorem c18_stream_key_rejects_long (p : Nat) (r s : Bytes) (h : 255 < r.length) : streamKey p r s = none := by
  rw [streamKey, recvKey, lengthPrefix, if_neg (by omega), if_pos h]; rfl

/-! ### the same at the level of the handlers: what is written to one purchase order is not read for another -/

/-- **A decision writes one order.**  A successful `ProcessUndPurchaseOrder` on order `id` leaves every other order, both
queues, the whitelist, every locked and spent record, both totals and the parameters exactly as they were. -/
theorem c18_decision_writes_one_order (e e' : EntState) (now id dec : Nat) (sg : AddrTok)
    (h : e.decide_ now id dec sg = .ok e') :
    (∀ j, j ≠ id → AL.find? e'.orders j = AL.find? e.orders j) ∧
    e'.raisedQ = e.raisedQ ∧ e'.acceptedQ = e.acceptedQ ∧ e'.whitelist = e.whitelist ∧ e'.locked = e.locked ∧
    e'.spent = e.spent ∧ e'.totalLocked = e.totalLocked ∧ e'.totalSpent = e.totalSpent ∧ e'.params = e.params ∧
    e'.nextId = e.nextId := by
  obtain ⟨_, po, _, _, _, _, _, _, rfl⟩ := EntState.decide_ok h
  exact ⟨fun j hj => AL.find_insert_ne _ _ _ _ (Ne.symm hj), rfl, rfl, rfl, rfl, rfl, rfl, rfl, rfl, rfl⟩

/-- **The tally of an order reads that order only** (and the parameters): in any two states of any two runs that hold the
same order under `id` and the same enterprise parameters, the tally at the same block time leaves the same order under
`id` - whatever decisions the other raised orders of either state carry, and in whatever order they are tallied. -/
theorem c18_tally_reads_only_the_order_itself (g1 g2 : GenCfg) (s1 s2 : State)
    (h1 : FineReach g1 EntQ s1) (h2 : FineReach g2 EntQ s2) (now : Nat) (e1 e2 : EntState)
    (ht1 : s1.ent.tally now = .ok e1) (ht2 : s2.ent.tally now = .ok e2) (hp : s1.ent.params = s2.ent.params)
    (id : Nat) (po : PO) (hf1 : AL.find? s1.ent.orders id = some po) (hf2 : AL.find? s2.ent.orders id = some po) :
    AL.find? e1.orders id = AL.find? e2.orders id := by
  rw [tally_spec (bookInv_reachable g1 s1 h1) ht1 id po hf1,
      tally_spec (bookInv_reachable g2 s2 h2) ht2 id po hf2, hp]

/-- **A record writes one registration.**  In every state of every run, a successful `RecordWrkChainBlock` /
`RecordBeaconTimestamp` for registration `id` - including the pruning it triggers - leaves every other registration, every
record of every other registration and every storage limit exactly as they were. -/
theorem c18_record_writes_one_registration (g : GenCfg) (hg : GenRegValid g) (s : State) (hs : FineReach g RegQ s)
    (hq : RegQ s) (now wall id key : Nat) (rc : Rec) (o : AddrTok) (k : Nat) :
    (∀ w', s.wrk.record now wall id key rc o = .ok (w', k) →
      (∀ j, j ≠ id → AL.find? w'.regs j = AL.find? s.wrk.regs j ∧ ∀ h, AL.find? w'.recs (j, h) = AL.find? s.wrk.recs (j, h)) ∧
      w'.limits = s.wrk.limits) ∧
    (∀ b', s.bcn.record now wall id key rc o = .ok (b', k) →
      (∀ j, j ≠ id → AL.find? b'.regs j = AL.find? s.bcn.regs j ∧ ∀ h, AL.find? b'.recs (j, h) = AL.find? s.bcn.recs (j, h)) ∧
      b'.limits = s.bcn.limits) := by
  have key : ∀ (r r' : RegState), RegAll r → RegBounded r → r.record now wall id key rc o = .ok (r', k) →
      (∀ j, j ≠ id → AL.find? r'.regs j = AL.find? r.regs j ∧ ∀ h, AL.find? r'.recs (j, h) = AL.find? r.recs (j, h)) ∧
      r'.limits = r.limits := fun r r' hi hb h => by
    obtain ⟨m, rc', drop, n, l, hm, rfl, _, _, _, rfl⟩ := record_stored hi hb h
    refine ⟨fun j hj => ⟨AL.find_insert_ne _ _ _ _ (Ne.symm hj), fun x => ?_⟩, rfl⟩
    rw [find_stored_recs hi.reg.sortedRecs, if_neg, if_neg (fun e => hj (Prod.mk.inj e).1.symm)]
    cases drop with
    | none => exact nofun
    | some d => exact fun e => hj (Prod.mk.inj (Option.some.inj e)).1.symm
  exact ⟨fun w' h => key _ w' (wrkAll_reachable g hg s hs).1 hq.1 h, fun b' h => key _ b' (bcnAll_reachable g hg s hs).1 hq.2 h⟩

/-- **A stream message writes one stream.**  Each of the five stream messages, when it succeeds for the pair
(receiver `r`, sender `s`) its address fields decode to, leaves every other stream - every other pair, including the
reversed pair (s, r) and pairs sharing the receiver or the sender - and the fee parameter exactly as they were. -/
theorem c18_stream_message_writes_one_stream (x : SB) (now : Int) (blocked : Addr → Bool) (rT sT : AddrTok) (r s : Addr)
    (hr : rT.decode = some r) (hs : sT.decode = some s) :
    (∀ denom amt rate x', createStream x now blocked rT sT denom amt rate = .ok x' → OthersSame x x' r s) ∧
    (∀ y, claimStream x now blocked rT sT = .ok y → OthersSame x y.1 r s) ∧
    (∀ denom amt y, topUpDeposit x now blocked rT sT denom amt = .ok y → OthersSame x y.1 r s) ∧
    (∀ rate x', updateFlowRate x now blocked rT sT rate = .ok x' → OthersSame x x' r s) ∧
    (∀ x', cancelStreamMsg x now blocked rT sT = .ok x' → OthersSame x x' r s) := by
  have key : ∀ {x'}, (∃ r' s', rT.decode = some r' ∧ sT.decode = some s' ∧ OthersSame x x' r' s') → OthersSame x x' r s := by
    rintro x' ⟨r', s', hr', hs', hf⟩
    rw [hr] at hr'; rw [hs] at hs'; cases hr'; cases hs'; exact hf
  obtain ⟨f1, f2, f3, f4, f5⟩ := streamMsg_frame x now blocked rT sT
  exact ⟨fun d a r x' h => key (f1 d a r x' h), fun y h => key (f2 y h), fun d a y h => key (f3 d a y h),
    fun r x' h => key (f4 r x' h), fun x' h => key (f5 x' h)⟩

/-- **A storage purchase writes one limit; a registration writes one new identifier.**  A successful purchase for `id`
leaves every registration, every record and every other registration's limit as they were; a successful registration
(which receives `s.nextId`) leaves every record and every other identifier's registration and limit as they were. -/
theorem c18_purchase_and_registration_write_one_entry (s : RegState) :
    (∀ id n o s' k, s.purchase id n o = .ok (s', k) →
      s'.regs = s.regs ∧ s'.recs = s.recs ∧ ∀ j, j ≠ id → AL.find? s'.limits j = AL.find? s.limits j) ∧
    (∀ now mk nm gn ty o s' id, s.register now mk nm gn ty o = .ok (s', id) →
      id = s.nextId ∧ s'.recs = s.recs ∧
      ∀ j, j ≠ id → AL.find? s'.regs j = AL.find? s.regs j ∧ AL.find? s'.limits j = AL.find? s.limits j) := by
  constructor
  · intro id n o s' k h
    obtain ⟨_, _, _, _, _, _, _, _, rfl, _⟩ := RegState.purchase_ok h
    exact ⟨rfl, rfl, fun j hj => AL.find_insert_ne _ _ _ _ (Ne.symm hj)⟩
  · intro now mk nm gn ty o s' id h
    obtain ⟨_, _, rfl, rfl⟩ := RegState.register_ok h
    exact ⟨rfl, rfl, fun j hj => ⟨AL.find_insert_ne _ _ _ _ (Ne.symm hj), AL.find_insert_ne _ _ _ _ (Ne.symm hj)⟩⟩

/-- **An unlock writes one account's books.**  `UnlockCoinsForFees` for the fee payer leaves the locked record and the
spent record of every other address, the orders, the queues and the whitelist exactly as they were - whichever of its three
branches is taken. -/
theorem c18_unlock_writes_one_account (x x' : EB) (nowSec : Int) (payer : Addr) (fees : Coins)
    (h : x.unlockForFees nowSec payer fees = .ok x') :
    (∀ b, b ≠ payer → AL.find? x'.ent.locked b = AL.find? x.ent.locked b ∧ AL.find? x'.ent.spent b = AL.find? x.ent.spent b) ∧
    x'.ent.orders = x.ent.orders ∧ x'.ent.raisedQ = x.ent.raisedQ ∧ x'.ent.acceptedQ = x.ent.acceptedQ ∧
    x'.ent.whitelist = x.ent.whitelist ∧ x'.ent.params = x.ent.params := by
  rcases (EB.unlockForFees_ok h).2 with rfl | ⟨k, amt, bank, x1, _, h1, h2, _⟩
  · exact ⟨fun _ _ => ⟨rfl, rfl⟩, rfl, rfl, rfl, rfl, rfl⟩
  · obtain ⟨l, t, rfl, _⟩ := EB.lockedToSpent_eq h1 h2
    exact ⟨fun b hb => ⟨AL.find_insert_ne _ _ _ _ (Ne.symm hb), AL.find_insert_ne _ _ _ _ (Ne.symm hb)⟩, rfl, rfl, rfl, rfl, rfl⟩

/-- **A completion writes one order and one account's locked record.**  Completing the accepted order `id` (mint to the
purchaser and lock) leaves every other order, the locked record of every address but the purchaser, every spent record,
the raised queue and the whitelist exactly as they were. -/
theorem c18_completion_writes_one_order_and_one_account (x x' : EB) (nowSec : Int) (blocked : Addr → Bool) (id : Nat)
    (h : x.completeOne nowSec blocked id = .ok x') :
    ∃ po purchaser, AL.find? x.ent.orders id = some po ∧ po.purchaser.decode = some purchaser ∧
      (∀ j, j ≠ id → AL.find? x'.ent.orders j = AL.find? x.ent.orders j) ∧
      (∀ b, b ≠ purchaser → AL.find? x'.ent.locked b = AL.find? x.ent.locked b) ∧
      x'.ent.spent = x.ent.spent ∧ x'.ent.raisedQ = x.ent.raisedQ ∧ x'.ent.whitelist = x.ent.whitelist ∧
      x'.ent.params = x.ent.params := by
  obtain ⟨po, a, hf, _, ha, h⟩ := EB.completeOne_ok h
  refine ⟨po, a, hf, ha, ?_⟩
  rcases h with ⟨_, rfl⟩ | ⟨_, _, _, _, _, _, _, _, _, _, rfl⟩
  · exact ⟨fun j hj => AL.find_insert_ne _ _ _ _ (Ne.symm hj), fun _ _ => rfl, rfl, rfl, rfl, rfl⟩
  · exact ⟨fun j hj => AL.find_insert_ne _ _ _ _ (Ne.symm hj), fun b hb => AL.find_insert_ne _ _ _ _ (Ne.symm hb), rfl, rfl, rfl, rfl⟩

/-- what a message of one module may leave changed in the OTHER modules' sections: nothing -/
def OtherModulesSame (s s' : State) : Msg → Prop
  | .entRaise .. | .entDecide .. | .entWl .. | .entParams .. =>
      s'.wrk = s.wrk ∧ s'.bcn = s.bcn ∧ s'.str = s.str ∧ s'.bank = s.bank
  | .regReg k .. | .regRec k .. | .regBuy k .. | .regParams k .. =>
      s'.ent = s.ent ∧ s'.str = s.str ∧ s'.bank = s.bank ∧ (match k with | .wrk => s'.bcn = s.bcn | .bcn => s'.wrk = s.wrk)
  | .strCreate .. | .strClaim .. | .strTopup .. | .strRate .. | .strCancel .. | .strParams .. =>
      s'.ent = s.ent ∧ s'.wrk = s.wrk ∧ s'.bcn = s.bcn
  | .bankSend .. | .authzGrant .. | .authzRevoke .. | .feegrantGrant .. =>
      s'.ent = s.ent ∧ s'.wrk = s.wrk ∧ s'.bcn = s.bcn ∧ s'.str = s.str
  | .authzExec .. => True

/-- **The four modules' sections never alias each other**: an enterprise message writes the enterprise section only (not
even a balance), a WRKChain message the WRKChain section only and a BEACON message the BEACON section only (the two
registries share their code, not their state), a stream message the stream section and balances, and bank, authz grant /
revoke and fee-grant messages none of the four.  Nothing is claimed of `authz.exec` itself: it writes what the messages
it carries write, each of them through `execMsg` again. -/
theorem c18_modules_do_not_write_each_other (wall : Nat) (s s' : State) (m : Msg) (r : Resp)
    (h : execMsg wall s m = .ok (s', r)) : OtherModulesSame s s' m := by
  cases execMsg_ok h with
  | authzExec => trivial
  | regReg | regRec | regBuy | regParams => cases ‹RegKind› <;> exact ⟨rfl, rfl, rfl, rfl⟩
  | entRaise | entDecide | entWl | entParams | bankSend | authzGrant | authzRevoke | feegrantGrant => exact ⟨rfl, rfl, rfl, rfl⟩
  | _ => exact ⟨rfl, rfl, rfl⟩

-- non-vacuity: concrete keys
example : u64be 18446744073709551615 = [255,255,255,255,255,255,255,255] := by decide
example : (streamKey 17 [1,2,3] [1,2]).bind parseStreamKey = some ([1,2,3],[1,2]) := by decide
example : id2Key 2 0 18446744073709551615 ≠ id2Key 2 1 0 := by decide

end C18
end Mainchain
