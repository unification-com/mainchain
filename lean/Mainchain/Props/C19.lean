import Mainchain.Lemmas.Convert
/-
C19 — FUND/nund denomination conversion is exact.
The model (`Model/Convert.lean`) is exact decimal-string arithmetic, which is what
`types.ConvertUndDenomination` computes after the `fix:` commit (big.Rat); the correspondence
(`vpure`, kind `conv`) ties the two on every run.
-/
namespace Mainchain
namespace C19
open Convert

/-- printing a natural number and parsing it back is the identity (the model's own digit functions) -/
theorem c19_show_parse (n : Nat) : parseDecimal (showNat n) = some (n, 0) := by
  rw [showNat, (parseDecimal_print (digits n) [] (digits_lt10 n) (fun _ h => by cases h) (digits_ne_nil n)).1, ofDigits_digits]

/-- FUND → nund is exact for every decimal amount `m / 10^k` with at most nine fractional digits:
    the result times 10^k equals m × 10^9 (no rounding anywhere) -/
theorem c19_fund_to_nund_exact (m k : Nat) (hk : k ≤ 9) : fundToNundNat m k * 10 ^ k = m * 10 ^ 9 := by
  simp only [fundToNundNat, hk, if_true]
  rw [Nat.mul_assoc, ← Nat.pow_add]
  congr 2
  omega

/-- beyond nine fractional digits the result is the exact value truncated toward zero -/
theorem c19_fund_to_nund_truncates (m k : Nat) (hk : 9 < k) :
    fundToNundNat m k * 10 ^ (k - 9) ≤ m ∧ m < (fundToNundNat m k + 1) * 10 ^ (k - 9) := by
  simp only [fundToNundNat, Nat.not_le.mpr hk, if_false]
  refine ⟨Nat.div_mul_le_self m _, ?_⟩
  have := Nat.lt_mul_div_succ m (Nat.pow_pos (by decide) : 0 < 10 ^ (k - 9))
  rwa [Nat.mul_comm] at this

/-- nund → FUND prints exactly n / 10^9 with nine decimals: parsing the printed amount gives back
    all digits of `n` with nine fractional digits -/
theorem c19_nund_to_fund_exact (n : Nat) : parseDecimal (nundToFundStr n) = some (n, 9) := by
  rw [nundToFundStr, parseDecimal_fixed _ _ 9 (by decide) (Nat.mod_lt _ (by decide)), show 10 ^ 9 = 1000000000 from rfl,
    Nat.div_add_mod']

/-- there and back: nund → FUND → nund returns the original amount -/
theorem c19_roundtrip_nund (n : Nat) :
    (parseDecimal (nundToFundStr n)).map (fun (m, k) => fundToNundNat m k) = some n := by
  rw [c19_nund_to_fund_exact]; simp [fundToNundNat]

/-- there and back: FUND (≤ 9 fractional digits) → nund → FUND prints a numeral of the same value -/
theorem c19_roundtrip_fund (m k : Nat) (hk : k ≤ 9) :
    ∃ m', parseDecimal (nundToFundStr (fundToNundNat m k)) = some (m', 9) ∧ m' * 10 ^ k = m * 10 ^ 9 := by
  exact ⟨fundToNundNat m k, c19_nund_to_fund_exact _, c19_fund_to_nund_exact m k hk⟩

/-- **the command's own strings, FUND → nund**: whatever numeral the command accepts (`parseDecimal`) with at most nine
fractional digits, the printed nund amount is exactly FUND × 10⁹ (no rounding: `v · 10ᵏ = m · 10⁹` over ℕ) -/
theorem c19_convert_fund_exact (s : String) (m k : Nat) (hp : parseDecimal s = some (m, k)) (hk : k ≤ 9) :
    ∃ v, convert s "fund" "nund" = some (showNat v ++ "nund") ∧ v * 10 ^ k = m * 10 ^ 9 := by
  refine ⟨fundToNundNat m k, ?_, c19_fund_to_nund_exact m k hk⟩
  simp [convert, hp]

/-- **there and back at the level of the printed strings, nund first**: `convert` applied to the printed nund amount gives the
nine-decimal FUND numeral, and `convert` applied to that numeral prints the original nund amount again -/
theorem c19_convert_roundtrip_nund (n : Nat) :
    convert (showNat n) "nund" "fund" = some (nundToFundStr n ++ "fund") ∧
    convert (nundToFundStr n) "fund" "nund" = some (showNat n ++ "nund") := by
  constructor
  · simp [convert, c19_show_parse]
  · simp [convert, c19_nund_to_fund_exact, fundToNundNat]

/-- **there and back at the level of the printed strings, FUND first**: an accepted FUND numeral with at most nine fractional
digits goes to a nund amount `v`, whose printed form goes back to a nine-decimal FUND numeral of the same value -/
theorem c19_convert_roundtrip_fund (s : String) (m k : Nat) (hp : parseDecimal s = some (m, k)) (hk : k ≤ 9) :
    ∃ v m', convert s "fund" "nund" = some (showNat v ++ "nund") ∧
      convert (showNat v) "nund" "fund" = some (nundToFundStr v ++ "fund") ∧
      parseDecimal (nundToFundStr v) = some (m', 9) ∧ m' * 10 ^ k = m * 10 ^ 9 := by
  obtain ⟨v, hv, hval⟩ := c19_convert_fund_exact s m k hp hk
  exact ⟨v, v, hv, (c19_convert_roundtrip_nund v).1, c19_nund_to_fund_exact v, hval⟩

-- the premises are met by ordinary inputs
example : parseDecimal "1.5" = some (15, 1) ∧ (1 : Nat) ≤ 9 := by decide
example : parseDecimal "123456789.123456789" = some (123456789123456789, 9) := by decide

-- the witnesses on which the unfixed code failed (float64 pipeline), now exact
example : convert "123456789.123456789" "fund" "nund" = some "123456789123456789nund" := by decide
example : convert "9999999999" "fund" "nund" = some "9999999999000000000nund" := by decide
example : convert "120000000000000001" "nund" "fund" = some "120000000.000000001fund" := by decide

end C19
end Mainchain
