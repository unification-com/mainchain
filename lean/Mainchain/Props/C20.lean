import Mainchain.Lemmas.PaginateWalk
import Mainchain.Lemmas.EntOrders
import Mainchain.Model.Script
import Mainchain.Lemmas.RegistryReach
import Mainchain.Lemmas.StreamReach
/-
C20 — List queries are complete, duplicate-free, consistent with point queries.

`Paginate.filtered` is the transcription of the SDK's `FilteredPaginate` / `GenericFilteredPaginate`
(one control flow; `Paginate` is its all-hits instance); the list queries of the four modules are
`Query.entPos`, `Query.regList`, `Query.strStreams`, `Query.strBySender`, `Query.strByReceiver`.
The tie to the code is the query engine of the harness (every query through ABCI Query on the gRPC
route of the real app, generated paging walks) compared with these functions on every run.
-/
namespace Mainchain
namespace C20
open AL Keys Paginate

variable {α : Type}

/-- **Paging by key is complete and duplicate-free.**  For any store section given as a map with
pairwise distinct, non-empty keys, any filter and any page limit `1 ≤ L < 2^64 − 1`: a first request without
key followed by requests carrying the previous `next_key`, until `next_key` is empty, returns — as the
concatenation of the pages — a list that (a) is exactly the matching entries in ascending key order and
(b) is a permutation of the matching entries of the map: every stored item that matches, exactly once,
and nothing else. -/
theorem c20_pages_partition_by_key (kvs : List (Bytes × α)) (hd : (kvs.map (·.1)).Nodup) (hne : ∀ e ∈ kvs, e.1 ≠ [])
    (h : Bytes → α → Bool) (L : Nat) (hL : 1 ≤ L) (hL' : L + 1 < two64) :
    ∃ pages, walkKeys (sortKV kvs) (fun k v => some (h k v)) L ((sortKV kvs).length + 2) [] = some pages ∧
      pages = (hitsOf h (sortKV kvs)).map (·.2) ∧
      pages.Perm ((kvs.filter (fun e => h e.1 e.2)).map (·.2)) := by
  obtain ⟨hsec, hperm⟩ := sortKV_section kvs hd hne
  exact ⟨_, walkKeys_complete (sortKV kvs) h L hsec hL (Or.inl hL'), rfl, (hperm.filter _).map _⟩

/-- **Paging backward by key (`reverse = true`) is complete and duplicate-free** too: the concatenation of the
pages is exactly the matching entries in descending key order — a permutation of the matching entries of the
map.  (A reverse request carrying the key of the top entry is an error of the SDK helper; a walk never sends
one: `Paginate.key_page_rev_top`.) -/
theorem c20_pages_partition_by_key_reverse (kvs : List (Bytes × α)) (hd : (kvs.map (·.1)).Nodup) (hne : ∀ e ∈ kvs, e.1 ≠ [])
    (h : Bytes → α → Bool) (L : Nat) (hL : 1 ≤ L) (hL' : L + 1 < two64) :
    ∃ pages, walkKeysRev (sortKV kvs) (fun k v => some (h k v)) L ((sortKV kvs).length + 2) [] = some pages ∧
      pages = ((hitsOf h (sortKV kvs)).map (·.2)).reverse ∧
      pages.Perm ((kvs.filter (fun e => h e.1 e.2)).map (·.2)) := by
  obtain ⟨hsec, hperm⟩ := sortKV_section kvs hd hne
  have hrev : (hitsOf h (sortKV kvs).reverse).map (·.2) = ((hitsOf h (sortKV kvs)).map (·.2)).reverse := by
    unfold hitsOf; rw [List.filter_reverse, List.map_reverse]
  refine ⟨_, walkKeysRev_complete (sortKV kvs) h L hsec hL hL', hrev, ?_⟩
  rw [hrev]
  exact (List.reverse_perm _).trans ((hperm.filter _).map _)

/-- **…and at the largest page limit, `query.MaxLimit` = 2^64 − 1**, where the SDK's `end + 1` wraps (see the instance
below): the first page may be cut short after one entry, but following `next_key` still returns every matching entry exactly
once — so the walk is complete and duplicate-free for *every* page limit `1 ≤ L ≤ 2^64 − 1`, here for a section of at
most 2^64 − 2 entries (`hlen`). -/
theorem c20_pages_partition_by_key_max_limit (kvs : List (Bytes × α)) (hd : (kvs.map (·.1)).Nodup) (hne : ∀ e ∈ kvs, e.1 ≠ [])
    (h : Bytes → α → Bool) (hlen : kvs.length + 1 ≤ maxLimit) :
    ∃ pages, walkKeys (sortKV kvs) (fun k v => some (h k v)) maxLimit ((sortKV kvs).length + 2) [] = some pages ∧
      pages = (hitsOf h (sortKV kvs)).map (·.2) ∧
      pages.Perm ((kvs.filter (fun e => h e.1 e.2)).map (·.2)) := by
  obtain ⟨hsec, hperm⟩ := sortKV_section kvs hd hne
  have hl : (sortKV kvs).length < maxLimit := by rw [hperm.length_eq]; exact hlen
  exact ⟨_, walkKeys_complete (sortKV kvs) h maxLimit hsec (by decide) (Or.inr ⟨rfl, hl⟩), rfl, (hperm.filter _).map _⟩

/-- **Paging by offset.**  The page at offset `o` with limit `L` is exactly the matching entries number
`o … o+L-1` in key order, so the pages at offsets `0, L, 2L, …` partition the matching entries. -/
theorem c20_pages_partition_by_offset (kvs : List (Bytes × α)) (h : Bytes → α → Bool) (o L : Nat) (hL : 1 ≤ L)
    (hfit : o + L + 1 < two64) :
    (filtered (sortKV kvs) { offset := o, limit := L } (fun k v => some (h k v))).map (·.items) =
      some ((((hitsOf h (sortKV kvs)).map (·.2)).drop o).take L) :=
  offset_page (sortKV kvs) h o L false hL hfit

/-- …: the pages at offsets `0, L, …, (n−1)·L` concatenate to the first `n·L` matching entries -/
theorem drop_take_partition {β : Type} (l : List β) (L : Nat) (hL : 1 ≤ L) :
    ∀ n, ((List.range n).map (fun i => (l.drop (i * L)).take L)).flatten = l.take (n * L) := by
  intro n
  induction n with
  | zero => simp
  | succ n ih =>
    rw [List.range_succ, List.map_append, List.flatten_append, ih]
    simp only [List.map_cons, List.map_nil, List.flatten_cons, List.flatten_nil, List.append_nil]
    rw [Nat.succ_mul, List.take_add]

/-- The one page size left out above, `limit = 2^64 − 1` (`query.MaxLimit`): the SDK computes `end + 1` in uint64, which
wraps to 0, so the first (offset) page stops after the first store entry it looks at unless that entry is a hit — it may
return nothing and a `next_key` although matching entries follow.  Following that `next_key` (a key request, which has no
such arithmetic) returns them all: nothing is lost or repeated over the walk, the first page is merely short.  Concrete
instance (the model transcribes the wrap: `addU64 end_ 1`; the real application behaves identically in the query engine). -/
example :
    filtered [([1], "a"), ([2], "b")] { limit := 18446744073709551615 } (fun k _ => some (decide (k = [2]))) =
      some { items := [], next := [1], total := 0 } ∧
    filtered [([1], "a"), ([2], "b")] { key := [1], limit := 18446744073709551615 } (fun k _ => some (decide (k = [2]))) =
      some { items := ["b"], next := [], total := 0 } := by
  constructor <;> rfl

/-- **Known finding (SDK pagination, reached through every list query): a *reverse* walk at `limit = 2^64 − 1` can fail.**
When the top entry of the section does not match the filter, the wrapped `end + 1` makes the first page return nothing and the
key of the top entry as `next_key`; a reverse request carrying the key of the top entry makes the SDK read `Key()` of an
exhausted iterator (`key_page_rev_top`): the query answers with an error and the matching entries below are never delivered.
Negation witness (replayed on the real application by `corpus/known/c20-reverse-walk-at-the-maximum-page-limit.script`);
forward walks are complete at every limit (`c20_pages_partition_by_key_max_limit`), reverse walks for `L < 2^64 − 1`. -/
theorem c20_reverse_walk_at_max_limit_fails :
    walkKeysRev [([1], "a"), ([2], "b")] (fun k _ => some (decide (k = [1]))) maxLimit 4 [] = none := by
  rfl

/-- a request with both a key and a non-zero offset is refused -/
theorem c20_key_and_offset_rejected (kvs : List (Bytes × α)) (req : Req) (hit : Bytes → α → Option Bool)
    (h1 : 0 < req.offset) (h2 : req.key ≠ []) : filtered kvs req hit = none := by
  simp [filtered, h1, h2]

/-! ### the list queries: instances of `Paginate.walk_sortKV_map` -/

/-- identifiers below 2^64 have distinct, non-empty big-endian keys -/
theorem idStore_keys {β : Type} (m : List (Nat × β)) (hlt : ∀ id v, find? m id = some v → id < two64) :
    (∀ a ∈ m, ∀ b ∈ m, u64be a.1 = u64be b.1 → a.1 = b.1) ∧ ∀ a ∈ m, u64be a.1 ≠ [] := by
  have hlt' : ∀ x ∈ m, x.1 < two64 := fun x hx => by
    obtain ⟨v, hv⟩ := find_some_of_mem m x.1 (List.mem_map_of_mem hx)
    exact hlt x.1 v hv
  exact ⟨fun a ha b hb e => u64be_inj a.1 b.1 (hlt' a ha) (hlt' b hb) e, fun _ _ => List.cons_ne_nil _ _⟩

/-- **Purchase orders.**  Paging through `EnterpriseUndPurchaseOrders` by key with any status / purchaser
filter and any limit returns every stored order that matches the filter exactly once and nothing else (stated as a
permutation; that the pages come in ascending key order is `c20_pages_partition_by_key`). -/
theorem c20_purchase_orders_walk (g : GenCfg) (s : State) (hr : FineReach g EntQ s) (hq : EntQ s)
    (status : Int) (purchaser : AddrTok) (L : Nat) (hL : 1 ≤ L) (hL' : L + 1 < two64) :
    let hit : Bytes → PO → Bool := fun _ po =>
      (status = 0 || decide ((po.status : Int) = status)) && (decide (purchaser = .empty) || Query.eqFold po.purchaser purchaser)
    ∃ pages, walkKeys (Query.poStore s.ent) (fun k v => some (hit k v)) L ((Query.poStore s.ent).length + 2) [] = some pages ∧
      pages.Perm ((s.ent.orders.map (·.2)).filter (fun po => hit [] po)) := by
  intro hit
  have hi := bookInv_reachable g s hr
  obtain ⟨h1, h2⟩ := idStore_keys s.ent.orders (fun id po hpo =>
    Nat.lt_trans (hi.fresh id po hpo) (Nat.lt_of_succ_lt hq))
  exact walk_sortKV_map s.ent.orders (·.1) (fun x => u64be x.1) (·.2) hi.nodup h1 h2 (fun po => hit [] po) L hL hL'

/-- the filter of `WrkChainsFiltered` / `BeaconsFiltered` -/
def regHit (moniker : String) (owner : AddrTok) : Bytes → RegMeta → Bool := fun _ m =>
  (decide (owner = .empty) || decide (m.owner = owner)) && (moniker.isEmpty || decide (m.moniker = moniker))

/-- with no owner filter, or one that decodes, the list query is `FilteredPaginate` with `regHit` -/
theorem regList_eq (r : RegState) (moniker : String) (owner : AddrTok) (ho : owner = .empty ∨ owner.decode.isSome = true)
    (req : Req) : Query.regList r moniker owner req = filtered (Query.regStore r) req (fun k v => some (regHit moniker owner k v)) := by
  unfold Query.regList regHit
  congr 1
  funext _ m
  rcases ho with ho | ho
  · simp [ho]
  · have : ¬ (owner ≠ .empty ∧ owner.decode.isNone = true) := by
      intro hc; rw [Option.isNone_iff_eq_none] at hc; rw [hc.2] at ho; simp at ho
    rw [if_neg this]

/-- **WRKChains and BEACONs.**  Paging through `WrkChainsFiltered` / `BeaconsFiltered` by key with any moniker
filter, an owner filter that is empty or decodes (then the query is the walk of `regHit`, `regList_eq`; an
undecodable owner is an error) and any limit returns every registration that matches exactly once and nothing
else (as a permutation, like the purchase orders) — for any registry satisfying `RegInv` with its id counter below
2^64; `c20_wrkchains_walk` and `c20_beacons_walk` are the instances for every state of every run along which the
module's 64-bit counters have not wrapped (`WrkQ` / `BcnQ`). -/
theorem c20_registrations_walk (r : RegState) (hi : RegInv r) (hq : r.nextId < two64)
    (moniker : String) (owner : AddrTok) (L : Nat) (hL : 1 ≤ L) (hL' : L + 1 < two64) :
    ∃ pages, walkKeys (Query.regStore r) (fun k v => some (regHit moniker owner k v)) L ((Query.regStore r).length + 2) [] = some pages ∧
      pages.Perm ((r.regs.map (·.2)).filter (fun m => regHit moniker owner [] m)) := by
  obtain ⟨h1, h2⟩ := idStore_keys r.regs (fun id m hm => Nat.lt_trans (hi.idsBelowNext id m hm).2 hq)
  exact walk_sortKV_map r.regs (·.1) (fun x => u64be x.1) (·.2) hi.nodupRegs h1 h2 (regHit moniker owner []) L hL hL'

theorem c20_wrkchains_walk (g : GenCfg) (hg : GenRegValid g) (s : State) (hr : FineReach g WrkQ s) (hq : WrkQ s)
    (moniker : String) (owner : AddrTok) (L : Nat) (hL : 1 ≤ L) (hL' : L + 1 < two64) :
    ∃ pages, walkKeys (Query.regStore s.wrk) (fun k v => some (regHit moniker owner k v)) L ((Query.regStore s.wrk).length + 2) [] = some pages ∧
      pages.Perm ((s.wrk.regs.map (·.2)).filter (fun m => regHit moniker owner [] m)) :=
  c20_registrations_walk s.wrk (regAll_reachable g hg .wrk s hr).1.reg (by unfold WrkQ RegBounded at hq; omega) moniker owner L hL hL'

theorem c20_beacons_walk (g : GenCfg) (hg : GenRegValid g) (s : State) (hr : FineReach g BcnQ s) (hq : BcnQ s)
    (moniker : String) (owner : AddrTok) (L : Nat) (hL : 1 ≤ L) (hL' : L + 1 < two64) :
    ∃ pages, walkKeys (Query.regStore s.bcn) (fun k v => some (regHit moniker owner k v)) L ((Query.regStore s.bcn).length + 2) [] = some pages ∧
      pages.Perm ((s.bcn.regs.map (·.2)).filter (fun m => regHit moniker owner [] m)) :=
  c20_registrations_walk s.bcn (regAll_reachable g hg .bcn s hr).1.reg (by unfold BcnQ RegBounded at hq; omega) moniker owner L hL hL'

/-- what the lists assume of the address bytes: every address is 1 … 255 bytes long (the SDK's limit, enforced by
`address.LengthPrefix`; it makes `Query.lp` the SDK's prefix, the proofs below do not use it) and different addresses
have different bytes.  Addresses of different lengths are allowed. -/
def AddrTableOK (tbl : List (Addr × Bytes)) (st : StreamState) : Prop :=
  (∀ x ∈ st.streams, (0 < (Query.addrBytes tbl x.1.1).length ∧ (Query.addrBytes tbl x.1.1).length ≤ 255) ∧
    (0 < (Query.addrBytes tbl x.1.2).length ∧ (Query.addrBytes tbl x.1.2).length ≤ 255)) ∧
  ∀ x ∈ st.streams, ∀ y ∈ st.streams,
    (Query.addrBytes tbl x.1.1 = Query.addrBytes tbl y.1.1 → x.1.1 = y.1.1) ∧
    (Query.addrBytes tbl x.1.2 = Query.addrBytes tbl y.1.2 → x.1.2 = y.1.2)

/-- a sequence of length-prefixed byte strings determines each of them -/
theorem lp_append_inj (a b x y : Bytes) (h : Query.lp a ++ x = Query.lp b ++ y) : a = b ∧ x = y := by
  obtain ⟨hl, ht⟩ := List.cons.inj h
  exact List.append_inj ht hl

/-- **Streams, and streams by sender.**  Paging through `Streams` (filter: all) or `AllStreamsForSender` (filter:
that sender) by key with any limit returns every matching stream exactly once and nothing else — whatever the
byte lengths of the addresses involved. -/
theorem c20_streams_walk (tbl : List (Addr × Bytes)) (st : StreamState) (ht : AddrTableOK tbl st) (hn : NoDupKeys st.streams)
    (hit : Query.StreamItem → Bool) (L : Nat) (hL : 1 ≤ L) (hL' : L + 1 < two64) :
    ∃ pages, walkKeys (Query.streamStore tbl st) (fun _ v => some (hit v)) L ((Query.streamStore tbl st).length + 2) [] = some pages ∧
      pages.Perm (st.streams.filter hit) := by
  have := walk_sortKV_map st.streams (·.1) (fun x => Query.lp (Query.addrBytes tbl x.1.1) ++ Query.lp (Query.addrBytes tbl x.1.2)) id
    hn (fun a ha b hb e => by
      obtain ⟨h1, h2⟩ := lp_append_inj _ _ _ _ e
      exact Prod.ext ((ht.2 a ha b hb).1 h1) ((ht.2 a ha b hb).2 (List.cons.inj h2).2))
    (fun _ _ => List.cons_ne_nil _ _) hit L hL hL'
  rwa [List.map_id] at this

/-- **Streams by receiver** (a prefix scan of the receiver's section): every stream of that receiver exactly
once, and no stream of any other receiver. -/
theorem c20_streams_by_receiver_walk (tbl : List (Addr × Bytes)) (st : StreamState) (ht : AddrTableOK tbl st)
    (hn : NoDupKeys st.streams) (ra : Addr) (L : Nat) (hL : 1 ≤ L) (hL' : L + 1 < two64) :
    let sect := sortKV ((st.streams.filter (fun x => x.1.1 = ra)).map (fun x => (Query.lp (Query.addrBytes tbl x.1.2), x)))
    ∃ pages, walkKeys sect (fun _ _ => some true) L (sect.length + 2) [] = some pages ∧
      pages.Perm (st.streams.filter (fun x => x.1.1 = ra)) := by
  have := walk_sortKV_map (st.streams.filter (fun x => x.1.1 = ra)) (·.1) (fun x => Query.lp (Query.addrBytes tbl x.1.2)) id
    (hn.sublist (List.filter_sublist.map _)) (fun a ha b hb e => by
      obtain ⟨ha, ha'⟩ := List.mem_filter.mp ha
      obtain ⟨hb, hb'⟩ := List.mem_filter.mp hb
      simp only [decide_eq_true_eq] at ha' hb'
      exact Prod.ext (ha'.trans hb'.symm) ((ht.2 a ha b hb).2 (List.cons.inj e).2))
    (fun _ _ => List.cons_ne_nil _ _) (fun _ => true) L hL hL'
  rwa [List.map_id, List.filter_eq_self.mpr (fun _ _ => rfl)] at this

/-- The hypothesis `NoDupKeys st.streams` of the two theorems above holds in every state of every run.  `AddrTableOK`
stays a hypothesis: the address bytes come from the scenario's table (`Query.addrBytes`), not from the state. -/
theorem c20_stream_lists_reachable (g : GenCfg) (hg : GenBankValid g) (s : State) (h : FineReach g BankSane s) :
    NoDupKeys s.str.streams := (strInv_reachable g hg s h).nodup

/-- the list queries of the model *are* these paging calls -/
example (tbl : List (Addr × Bytes)) (st : StreamState) (req : Req) :
    Query.strStreams tbl st req = filtered (Query.streamStore tbl st) req (fun _ _ => some true) := rfl
example (tbl : List (Addr × Bytes)) (st : StreamState) (sa : Addr) (req : Req) :
    Query.strBySender tbl st (AddrTok.canon sa) req =
      filtered (Query.streamStore tbl st) req (fun _ x => some (decide (x.1.2 = sa))) := by
  simp [Query.strBySender, AddrTok.canon, AddrTok.decode]

/-- non-vacuity: a 32-byte receiver, a 20-byte receiver that is a prefix of it, and two senders — the table
hypothesis and `NoDupKeys` hold and the store has three entries -/
def exTbl : List (Addr × Bytes) :=
  [(2001, List.replicate 20 7 ++ List.replicate 12 9), (2003, List.replicate 20 7), (1, List.replicate 20 1), (2, List.replicate 20 2)]
def exStr : Stream := { denom := "nund", deposit := 10, rate := 1, last := 0, zero := 10, cancellable := true }
def exSt : StreamState := { fee := 0, streams := [((2001, 1), exStr), ((2003, 1), exStr), ((2003, 2), exStr)] }
example : AddrTableOK exTbl exSt ∧ NoDupKeys exSt.streams ∧ (Query.streamStore exTbl exSt).length = 3 := by
  unfold AddrTableOK NoDupKeys AL.keys
  decide

/-- **Consistency with the point query.**  Every stored order is what `EnterpriseUndPurchaseOrder(id)`
returns for its id (ids are never 0: the genesis starting id is validated to be positive). -/
theorem c20_listed_order_eq_point_query (g : GenCfg) (s : State) (hr : FineReach g EntQ s) (id : Nat) (po : PO)
    (hf : find? s.ent.orders id = some po) (h0 : id ≠ 0) : Query.entPo s.ent po.id = some po := by
  have hi := bookInv_reachable g s hr
  have := hi.idKey id po hf
  simp [Query.entPo, this, h0, hf]

/-- the same for registrations and streams -/
theorem c20_listed_registration_eq_point_query (r : RegState) (id : Nat) (m : RegMeta) (hf : find? r.regs id = some m)
    (h0 : id ≠ 0) : Query.regGet r id = some m := by
  simp [Query.regGet, h0, hf]

theorem c20_listed_stream_eq_point_query (st : StreamState) (ra sa : Addr) (x : Stream)
    (hf : find? st.streams (ra, sa) = some x) :
    Query.strGet st (AddrTok.canon ra) (AddrTok.canon sa) = some ((ra, sa), x) := by
  simp [Query.strGet, AddrTok.canon, AddrTok.decode, hf]

/-- **Queries never modify state.**  A QUERY (or DIGEST) line of the model's script interpreter (`Script.stepToks`)
leaves the node exactly as it was — by construction: the query servers of the model are functions of the committed
state with no state result; for the application this rests on the correspondence alone. -/
theorem c20_queries_do_not_modify_state (wall : Nat) (it : Script.Interp) (line k kind : String) (args : List String) :
    (Script.stepToks wall it line ("QUERY" :: k :: kind :: args)).1.node = it.node ∧
    (Script.stepToks wall it line ["DIGEST"]).1.node = it.node := by
  constructor
  · simp only [Script.stepToks]
    split
    · split <;> rfl
    · rfl
  · simp only [Script.stepToks]
    split <;> rfl

end C20
end Mainchain
